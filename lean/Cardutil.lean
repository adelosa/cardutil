import Cardutil.Basic
import Cardutil.Wire
import Cardutil.WireIso
import Cardutil.Legacy
import Cardutil.Py.Codec
import Cardutil.Py.Digits
import Cardutil.Py.Int
import Cardutil.Py.Time
import Cardutil.Model.BitArray
import Cardutil.Model.Block1014
import Cardutil.Model.Card
import Cardutil.Model.Des
import Cardutil.Model.Aes
import Cardutil.Model.Cli
import Cardutil.Model.Info
import Cardutil.Model.Iso8583
import Cardutil.Model.Param
import Cardutil.Model.PinBlock
import Cardutil.Model.Vbs
import Cardutil.Lemmas.Table
import Cardutil.Lemmas.Insert
import Cardutil.Lemmas.Codec
import Cardutil.Lemmas.BitArray
import Cardutil.Lemmas.Bitmap
import Cardutil.Lemmas.Block
import Cardutil.Lemmas.Dict
import Cardutil.Lemmas.Des
import Cardutil.Lemmas.Aes
import Cardutil.Lemmas.Param
import Cardutil.Lemmas.IsoDict
import Cardutil.Lemmas.IsoField
import Cardutil.Lemmas.IsoLoop
import Cardutil.Lemmas.IsoMsg
import Cardutil.Lemmas.IsoPds
import Cardutil.Lemmas.IsoReencode
import Cardutil.Lemmas.IsoSafe
import Cardutil.Lemmas.Pds
import Cardutil.Lemmas.Hex
import Cardutil.Lemmas.Pin
import Cardutil.Lemmas.PyInt
import Cardutil.Lemmas.Sort
import Cardutil.Lemmas.Time
import Cardutil.Lemmas.Unblock
import Cardutil.Lemmas.Vbs
import Cardutil.Props.C01
import Cardutil.Props.C02
import Cardutil.Props.C03
import Cardutil.Props.C04
import Cardutil.Props.C05
import Cardutil.Props.C06
import Cardutil.Props.C07
import Cardutil.Props.C08
import Cardutil.Props.C09
import Cardutil.Props.C10
import Cardutil.Props.C11
import Cardutil.Props.C12
import Cardutil.Props.C13
import Cardutil.Props.C14
import Cardutil.Props.C15
import Cardutil.Props.C16
import Cardutil.Props.C17
import Cardutil.Props.C18
import Cardutil.Props.C19
import Cardutil.Props.C20
