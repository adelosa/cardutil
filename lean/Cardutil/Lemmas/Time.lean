import Cardutil.Py.Time
import Cardutil.Lemmas.PyInt
/-
  `strptime(strftime(d, fmt), fmt) = d` for the model of Py/Time.lean: `hback` of `WFField.date` / `WFField.dateText`
  discharged for every format of the numeric directives and every date-time it can express.  The matcher backtracks
  over CPython's alternatives like the regular expression `_strptime` builds.  Every directive lists its longest
  alternatives first and renders to that length, so the alternatives tried before the one that accepts the rendering
  split the text at the same place or fail (`matchAlts_fits`); what each directive contributes is one line of a
  table, `fits_render`.
-/
namespace Cardutil.Py

open Cardutil.Digits

theorem ok_ch (k : IntClasses) (x c : Nat) : CC.ok k (.ch x) c = (x == c) := rfl

theorem matchAlt_append (k : IntClasses) (a : List CC) (m rest : Text) (hl : a.length = m.length) :
    matchAlt k a (m ++ rest) = bif (a.zip m).all (fun p => p.1.ok k p.2) then some (m, rest) else none := by
  induction a generalizing m with
  | nil => cases m with
    | nil => rfl
    | cons => cases hl
  | cons cc a ih => cases m with
    | nil => cases hl
    | cons c m =>
      rw [List.cons_append, matchAlt, ih m (Nat.succ.inj hl), List.zip_cons_cons, List.all_cons]
      cases cc.ok k c <;> cases (a.zip m).all _ <;> rfl

theorem two_miss2 (k : IntClasses) (a b : CC) (c1 c2 : Nat) (rest : Text) (h2 : b.ok k c2 = false) :
    matchAlt k [a, b] (c1 :: c2 :: rest) = none :=
  (matchAlt_append k [a, b] [c1, c2] rest rfl).trans (by simp [h2])

/-- one of the leading alternatives of the group's own length accepts the group -/
def fits (k : IntClasses) (m : Text) : List (List CC) → Bool
  | [] => false
  | a :: as => a.length == m.length && ((a.zip m).all (fun p => p.1.ok k p.2) || fits k m as)

/-- alternatives of the group's length that come before the accepting one fail, or match the same group and
    backtrack into the same continuation -/
theorem matchAlts_fits (k : IntClasses) (alts : List (List CC)) (ds : List Directive) (m rest : Text) (ms : List Text)
    (r : Text) (hit : fits k m alts = true) (hs : matchSeq k ds rest = some (ms, r)) :
    matchAlts k alts ds (m ++ rest) = some (m :: ms, r) := by
  induction alts with
  | nil => cases hit
  | cons a as ih =>
    rw [fits, Bool.and_eq_true, beq_iff_eq] at hit
    rw [matchAlts, matchAlt_append k a m rest hit.1]
    cases ha : (a.zip m).all (fun p => p.1.ok k p.2)
    · exact ih (by simpa [ha] using hit.2)
    · simp [hs]

/-- the values a directive can render and read back -/
def DirOK (dt : DateTime) : Directive → Prop
  | .y => 1969 ≤ dt.year ∧ dt.year ≤ 2068
  | .Y => 1000 ≤ dt.year ∧ dt.year ≤ 9999
  | .m => 1 ≤ dt.month ∧ dt.month ≤ 12
  | .d => 1 ≤ dt.day ∧ dt.day ≤ 31
  | .H => dt.hour < 24
  | .M => dt.minute < 60
  | .S => dt.second < 60
  | .lit _ => True

section
variable {k : IntClasses} (hk : k.Sane)

include hk in
theorem fits_render (dt : DateTime) (D : Directive) (h : DirOK dt D) : fits k (strftimeDir dt D) D.alts = true := by
  have digit_mod (n : Nat) : k.digit (48 + n % 10) = some (n % 10) := hk.digit _ (Nat.mod_lt n (by decide))
  cases D <;> simp only [DirOK] at h <;>
    simp [fits, Directive.alts, strftimeDir, pad2, toDigits, CC.ok, digit_mod] <;> omega

variable (ds : List Directive) (rest : Text) (ms : List Text) (r : Text)

include hk in
theorem alts_render (dt : DateTime) (D : Directive) (h : DirOK dt D) (hs : matchSeq k ds rest = some (ms, r)) :
    matchAlts k D.alts ds (strftimeDir dt D ++ rest) = some (strftimeDir dt D :: ms, r) :=
  matchAlts_fits k _ ds _ rest ms r (fits_render hk dt D h) hs

include hk in
theorem alts_S (v : Nat) (hv : v < 60) (h : matchSeq k ds rest = some (ms, r)) :
    matchAlts k Directive.S.alts ds (pad2 v ++ rest) = some (pad2 v :: ms, r) :=
  alts_render hk ds rest ms r ⟨0, 0, 0, 0, 0, v⟩ .S hv h

include hk in
theorem alts_H (v : Nat) (hv : v < 24) (h : matchSeq k ds rest = some (ms, r)) :
    matchAlts k Directive.H.alts ds (pad2 v ++ rest) = some (pad2 v :: ms, r) :=
  alts_render hk ds rest ms r ⟨0, 0, 0, v, 0, 0⟩ .H hv h

include hk in
theorem alts_m (v : Nat) (hv : 1 ≤ v ∧ v ≤ 12) (h : matchSeq k ds rest = some (ms, r)) :
    matchAlts k Directive.m.alts ds (pad2 v ++ rest) = some (pad2 v :: ms, r) :=
  alts_render hk ds rest ms r ⟨0, v, 0, 0, 0, 0⟩ .m hv h

include hk in
theorem alts_d (v : Nat) (hv : 1 ≤ v ∧ v ≤ 31) (h : matchSeq k ds rest = some (ms, r)) :
    matchAlts k Directive.d.alts ds (pad2 v ++ rest) = some (pad2 v :: ms, r) :=
  alts_render hk ds rest ms r ⟨0, 0, v, 0, 0, 0⟩ .d hv h

end

theorem matchSeq_strftime {k : IntClasses} (hk : k.Sane) (dt : DateTime) (fmt : List Directive)
    (h : ∀ D ∈ fmt, DirOK dt D) :
    matchSeq k fmt (strftime fmt dt) = some (fmt.map (strftimeDir dt), []) := by
  induction fmt with
  | nil => rw [matchSeq]; rfl
  | cons D fmt ih =>
    rw [matchSeq]
    exact alts_render hk fmt _ _ _ dt D (h D List.mem_cons_self) (ih fun E hE => h E (List.mem_cons_of_mem _ hE))

theorem pad2_digits (v : Nat) : pad2 v = (toDigits 10 2 v).map (48 + ·) := rfl

/-- both widths of `strftimeDir`: `pad2 v` is the case `w = 2`, the four-digit year `w = 4` -/
theorem groupVal_toDigits {k : IntClasses} (hk : k.Sane) (w v : Nat) (hw : 0 < w) (h : v < 10 ^ w) :
    groupVal k ((toDigits 10 w v).map (48 + ·)) = v := by
  rw [groupVal, ← digitText, ← fmtNat_eq hw h, pyInt_fmtNat hk w v hw h]

/-- `acc` with the field that `D` writes taken from `dt` -/
def writeField (dt acc : DateTime) : Directive → DateTime
  | .y => { acc with year := dt.year }
  | .Y => { acc with year := dt.year }
  | .m => { acc with month := dt.month }
  | .d => { acc with day := dt.day }
  | .H => { acc with hour := dt.hour }
  | .M => { acc with minute := dt.minute }
  | .S => { acc with second := dt.second }
  | .lit _ => acc

theorem applyGroup_render {k : IntClasses} (hk : k.Sane) (dt acc : DateTime) (D : Directive) (h : DirOK dt D) :
    applyGroup k acc (D, strftimeDir dt D) = writeField dt acc D := by
  cases D <;> simp only [DirOK] at h <;>
    simp (disch := omega) only [applyGroup, strftimeDir, writeField, pad2_digits, groupVal_toDigits hk]
  -- `%y`: the century window 1969..2068 of `_strptime`
  congr 1
  split <;> omega

/-- what is still to be set: each field already has the date-time's value or its directive is yet to come -/
def Pending (dt acc : DateTime) (l : List Directive) : Prop :=
  (acc.year = dt.year ∨ Directive.y ∈ l ∨ Directive.Y ∈ l) ∧ (acc.month = dt.month ∨ Directive.m ∈ l) ∧
  (acc.day = dt.day ∨ Directive.d ∈ l) ∧ (acc.hour = dt.hour ∨ Directive.H ∈ l) ∧
  (acc.minute = dt.minute ∨ Directive.M ∈ l) ∧ (acc.second = dt.second ∨ Directive.S ∈ l)

theorem pending_step {dt acc : DateTime} {D : Directive} {l : List Directive} (hp : Pending dt acc (D :: l)) :
    Pending dt (writeField dt acc D) l := by
  simp only [Pending, List.mem_cons] at hp ⊢
  cases D <;> simpa only [writeField, reduceCtorEq, false_or, true_or, or_true, true_and, and_true] using hp

theorem fold_groups {k : IntClasses} (hk : k.Sane) (dt : DateTime) : ∀ (l : List Directive) (acc : DateTime),
    (∀ D ∈ l, DirOK dt D) → Pending dt acc l →
    (l.zip (l.map (strftimeDir dt))).foldl (applyGroup k) acc = dt := by
  intro l
  induction l with
  | nil =>
    intro acc _ hp
    cases acc; cases dt
    simpa [Pending] using hp
  | cons D l ih =>
    intro acc hok hp
    rw [List.map_cons, List.zip_cons_cons, List.foldl_cons, applyGroup_render hk dt acc D (hok D List.mem_cons_self)]
    exact ih _ (fun E hE => hok E (List.mem_cons_of_mem _ hE)) (pending_step hp)

/-- a date-time the format can express: every directive's value in range (the two-digit year inside the
    1969..2068 window, the four-digit year 1000..9999), the fields the format does not mention at `strptime`'s
    defaults (1900-01-01 00:00:00), and a real calendar date -/
structure Expressible (fmt : List Directive) (dt : DateTime) : Prop where
  inRange : ∀ D ∈ fmt, DirOK dt D
  defaults : Pending dt ⟨1900, 1, 1, 0, 0, 0⟩ fmt
  valid : 1 ≤ dt.year ∧ dt.year ≤ 9999 ∧ 1 ≤ dt.month ∧ dt.month ≤ 12 ∧ 1 ≤ dt.day ∧
    dt.day ≤ daysInMonth dt.year dt.month ∧ dt.hour ≤ 23 ∧ dt.minute ≤ 59 ∧ dt.second ≤ 59

/-- `datetime.strptime(format(d, fmt), fmt) = d` -/
theorem strptime_strftime {k : IntClasses} (hk : k.Sane) (fmt : List Directive) (dt : DateTime)
    (h : Expressible fmt dt) : strptime k fmt (strftime fmt dt) = some dt := by
  unfold strptime
  rw [matchSeq_strftime hk dt fmt h.inRange]
  simp only [fold_groups hk dt fmt _ h.inRange h.defaults]
  rw [if_pos h.valid]

end Cardutil.Py
