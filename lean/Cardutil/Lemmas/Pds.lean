import Cardutil.Model.Iso8583
import Cardutil.Lemmas.PyInt
import Cardutil.Lemmas.Dict
/-
  PDS packing (`_pds_to_de`), followed on (tag, value) pairs (`pdsPackP`) whose rendered chunks are what `pdsPack`
  emits; recovery (`_pds_to_dict`); the assignment of the packed strings to the carriers; and how the PDS and ICC
  walks end on any input and which keys they store.
-/
namespace Cardutil.Iso

open Cardutil Cardutil.Py Cardutil.Digits

theorem pdsPack_flatten (es : List Text) (cur : Text) : (pdsPack es cur).flatten = cur ++ es.flatten := by
  fun_induction pdsPack es cur <;> simp_all

theorem pdsPack_le (es : List Text) (cur : Text) (hc : cur.length ≤ 999) (he : ∀ e ∈ es, e.length ≤ 999) :
    ∀ c ∈ pdsPack es cur, c.length ≤ 999 := by
  fun_induction pdsPack es cur with
  | case1 => simp
  | case2 => exact List.forall_mem_singleton.mpr hc
  | case3 e es cur _ ih =>
    exact List.forall_mem_cons.mpr ⟨hc, ih (he e List.mem_cons_self) fun x hx => he x (List.mem_cons_of_mem _ hx)⟩
  | case4 e es cur hle ih => exact ih (Nat.le_of_not_lt hle) fun x hx => he x (List.mem_cons_of_mem _ hx)

/-- a well-formed sub-element text: 4-character tag, 3-digit length, value -/
def entryOf (tag4 : Text) (v : Text) : Text := tag4 ++ (fmtNat 3 v.length ++ v)

theorem entryOf_length (tag4 v : Text) (ht : tag4.length = 4) (hv : v.length < 1000) :
    (entryOf tag4 v).length = 7 + v.length := by
  have h3 : (fmtNat 3 v.length).length = 3 := fmtNat_length 3 _ (by decide) (by simpa using hv)
  simp [entryOf, ht, h3]; omega

/-- what the encoder writes for a 4-digit tag key is `tag ++ 3-digit length ++ value`:
    `f'{int(key[3:]):04}{len(v):03}{v}'` reproduces the four key digits -/
theorem pdsEntry_digits (ds : List Nat) (hd : ∀ d ∈ ds, d < 10) (hl : ds.length = 4) (v : Text) :
    pdsEntry (Int.ofNat (fromDigits 10 ds)) v = entryOf (digitText ds) v := by
  have h4 := toDigits_fromDigits ds hd
  rw [hl] at h4
  simp only [pdsEntry, fmtInt, fmtNat_eq (by decide) (hl ▸ fromDigits_lt ds hd), h4, entryOf, List.append_assoc]

theorem pdsEntryFor_digits {k : IntClasses} (hk : k.Sane) (ds : List Nat) (hd : ∀ d ∈ ds, d < 10) (hl : ds.length = 4)
    (v : Text) : pdsEntryFor k (digitText ds, .str v) = .ok (entryOf (digitText ds) v) := by
  simp only [pdsEntryFor, pyInt_digits hk ds hd (by intro h0; subst h0; simp at hl), pdsEntry_digits ds hd hl]

def entryP (e : Text × Text) : Text := entryOf e.1 e.2

theorem entryP_le {e : Text × Text} (h : e.1.length = 4 ∧ e.2.length ≤ 992) : (entryP e).length ≤ 999 := by
  -- 992 = 999 - 7: tag (4) and length (3) come before the value, and an LLLVAR carrier holds 999 characters
  rw [entryP, entryOf_length _ _ h.1 (by omega)]; omega

/-- greedy packing on (tag, value) pairs — same algorithm as `pdsPack`, keeping the pairs -/
def pdsPackP : List (Text × Text) → List (Text × Text) → List (List (Text × Text))
  | [], g => if g.isEmpty then [] else [g]
  | e :: es, g =>
    if 999 < ((g.map entryP).flatten ++ entryP e).length then g :: pdsPackP es [e]
    else pdsPackP es (g ++ [e])

def chunkOf (g : List (Text × Text)) : Text := (g.map entryP).flatten

@[simp] theorem chunkOf_nil : chunkOf [] = [] := rfl
@[simp] theorem chunkOf_append (g h : List (Text × Text)) : chunkOf (g ++ h) = chunkOf g ++ chunkOf h := by
  simp [chunkOf]
@[simp] theorem chunkOf_singleton (e : Text × Text) : chunkOf [e] = entryP e := by simp [chunkOf]

theorem entryP_ne_nil (e : Text × Text) : entryP e ≠ [] := by
  simp [entryP, entryOf, fmtNat_ne_nil]

theorem chunkOf_eq_nil {g : List (Text × Text)} : chunkOf g = [] ↔ g = [] := by
  cases g with
  | nil => exact iff_of_true rfl rfl
  | cons e es =>
    -- `chunkOf (e :: es)` is `entryP e ++ chunkOf es`
    exact iff_of_false (fun h => entryP_ne_nil e (List.append_eq_nil_iff.mp h).1) (List.cons_ne_nil _ _)

/-- `pdsPackP` is `pdsPack` that remembers which entries went into which string -/
theorem pdsPack_pairs (es g : List (Text × Text)) :
    pdsPack (es.map entryP) (chunkOf g) = (pdsPackP es g).map chunkOf := by
  fun_induction pdsPackP es g with
  | case1 g hg => simp [pdsPack, List.isEmpty_iff.mp hg]
  | case2 g hg => simp [pdsPack, chunkOf_eq_nil, mt List.isEmpty_iff.mpr hg]
  | case3 e es g hgt ih =>
    rw [List.map_cons, pdsPack, if_pos (show 999 < (chunkOf g ++ entryP e).length from hgt), List.map_cons, ← ih,
      chunkOf_singleton]
  | case4 e es g hle ih =>
    rw [List.map_cons, pdsPack, if_neg (show ¬ 999 < (chunkOf g ++ entryP e).length from hle), ← ih, chunkOf_append,
      chunkOf_singleton]

theorem pdsPackP_flatten (es g : List (Text × Text)) : (pdsPackP es g).flatten = g ++ es := by
  fun_induction pdsPackP es g <;> simp_all

/-- the groups partition the entries -/
theorem mem_pdsPackP {es : List (Text × Text)} {e : Text × Text} : (∃ g ∈ pdsPackP es [], e ∈ g) ↔ e ∈ es := by
  rw [← List.mem_flatten, pdsPackP_flatten, List.nil_append]

theorem pdsPackP_ne (es g : List (Text × Text)) (hle : ∀ e ∈ es, (entryP e).length ≤ 999) :
    ∀ grp ∈ pdsPackP es g, grp ≠ [] := by
  fun_induction pdsPackP es g with
  | case1 => simp
  | case2 g hne => exact List.forall_mem_singleton.mpr (mt List.isEmpty_iff.mpr hne)
  | case3 e es g hgt ih =>
    -- an empty group is closed only by an entry longer than 999
    have hne : g ≠ [] := fun h0 => by subst h0; have := hle e (by simp); simp at hgt; omega
    exact List.forall_mem_cons.mpr ⟨hne, ih fun x hx => hle x (List.mem_cons_of_mem _ hx)⟩
  | case4 e es g _ ih => exact ih fun x hx => hle x (by simp [hx])

/-- greedy maximality: a chunk is closed only when the next entry does not fit — for every two
    consecutive groups, the first entry of the later one would have pushed the earlier one over
    999 characters -/
def GreedyChain : List (List Text) → Prop
  | [] => True
  | [_] => True
  | g :: g' :: rest => (∀ e, g'.head? = some e → 999 < (g.flatten ++ e).length) ∧ GreedyChain (g' :: rest)

/-- the open group is the beginning of the first group returned -/
theorem pdsPackP_cons (es g : List (Text × Text)) (hg : g ≠ []) : ∃ tail rest, pdsPackP es g = (g ++ tail) :: rest := by
  fun_induction pdsPackP es g with
  | case1 g h => exact absurd (List.isEmpty_iff.mp h) hg
  | case2 | case3 => exact ⟨[], _, by rw [List.append_nil]⟩
  | case4 e es g _ ih =>
    obtain ⟨tail, rest, h⟩ := ih (by simp)
    exact ⟨e :: tail, rest, by rw [h, List.append_assoc, List.singleton_append]⟩

theorem pdsPackP_greedy (es g : List (Text × Text)) : GreedyChain ((pdsPackP es g).map (List.map entryP)) := by
  fun_induction pdsPackP es g with
  | case1 | case2 => simp [GreedyChain]
  | case3 e es g hgt ih =>
    obtain ⟨tail, rest, h⟩ := pdsPackP_cons es [e] (by simp)
    rw [h] at ih ⊢
    exact ⟨fun x hx => by cases hx; exact hgt, ih⟩
  | case4 _ _ _ _ ih => exact ih

theorem pdsWalk_step {k : IntClasses} (hk : k.Sane) (fuel : Nat) (tag4 v rest : Text) (acc : Dict)
    (ht : tag4.length = 4) (hv : v.length < 1000) :
    pdsWalk k (fuel + 1) (entryOf tag4 v ++ rest) acc =
      pdsWalk k fuel rest (Dict.set acc (.pds tag4) (.str v)) := by
  have hv : v.length < 10 ^ 3 := hv
  have h3 : (fmtNat 3 v.length).length = 3 := fmtNat_length 3 _ (by decide) hv
  rw [pdsWalk, if_neg (by simp [entryOf, fmtNat_ne_nil])]
  simp only [entryOf, List.append_assoc]
  rw [List.drop_left' ht, List.take_left' h3, pyInt_fmtNat hk 3 v.length (by decide) hv, List.take_left' ht]
  simp only
  rw [← List.append_assoc tag4, List.drop_left' (by rw [List.length_append, ht, h3] : (tag4 ++ fmtNat 3 v.length).length = 7),
    List.take_left' rfl, ← List.append_assoc _ v,
    List.drop_left' (by rw [List.length_append, List.length_append, ht, h3])]

/-- the dictionary a carrier holding the group `g` decodes to -/
def groupDict (g : List (Text × Text)) : Dict := Dict.update [] (g.map fun e => (Key.pds e.1, Val.str e.2))

theorem pdsWalk_entries {k : IntClasses} (hk : k.Sane) (ents : List (Text × Text)) (acc : Dict) (fuel : Nat)
    (h : ∀ e ∈ ents, e.1.length = 4 ∧ e.2.length ≤ 992) (hf : (chunkOf ents).length < fuel) :
    pdsWalk k fuel (chunkOf ents) acc = .ok (Dict.update acc (ents.map fun e => (Key.pds e.1, Val.str e.2))) := by
  induction ents generalizing acc fuel with
  | nil =>
    cases fuel with
    | zero => exact absurd hf (Nat.not_lt_zero _)
    | succ f => simp [pdsWalk, chunkOf, Dict.update]
  | cons e es ih =>
    cases fuel with
    | zero => exact absurd hf (Nat.not_lt_zero _)
    | succ f =>
      obtain ⟨ht, hv⟩ := h e List.mem_cons_self
      have hv : e.2.length < 1000 := Nat.lt_of_le_of_lt hv (by decide)
      have hc : chunkOf (e :: es) = entryOf e.1 e.2 ++ chunkOf es := rfl
      rw [hc, List.length_append, entryOf_length e.1 e.2 ht hv] at hf
      rw [hc, pdsWalk_step hk f e.1 e.2 _ acc ht hv]
      exact ih _ f (fun x hx => h x (List.mem_cons_of_mem _ hx))
        (Nat.lt_of_lt_of_le (Nat.lt_add_of_pos_left (Nat.add_pos_left (by decide) _)) (Nat.le_of_lt_succ hf))

theorem pdsToDict_entries {k : IntClasses} (hk : k.Sane) (ents : List (Text × Text))
    (h : ∀ e ∈ ents, e.1.length = 4 ∧ e.2.length ≤ 992) : pdsToDict k (chunkOf ents) = .ok (groupDict ents) :=
  pdsWalk_entries hk ents [] _ h (Nat.lt_succ_self _)

theorem groupDict_get (g : List (Text × Text)) (hnd : (g.map (·.1)).Nodup) (e : Text × Text) (he : e ∈ g) :
    Dict.get (groupDict g) (.pds e.1) = some (.str e.2) := by
  refine Dict.get_update_of_mem ?_ (List.mem_map.mpr ⟨e, he, rfl⟩)
  have : (List.map Key.pds (g.map (·.1))).Nodup :=
    List.Pairwise.map (S := (· ≠ ·)) Key.pds (fun a b hab h => hab (Key.pds.inj h)) hnd
  unfold keys
  rwa [List.map_map] at this ⊢

theorem mem_groupDict {g : List (Text × Text)} {kv : Key × Val} (h : kv ∈ groupDict g) :
    ∃ e ∈ g, kv = (.pds e.1, .str e.2) := by
  rcases Dict.mem_update h with h | h
  · cases h
  · obtain ⟨e, he, rfl⟩ := List.mem_map.mp h
    exact ⟨e, he, rfl⟩

/-- `cs.zip ts` says which carrier receives which string -/
theorem assignCarriers_zip (cs : List Nat) (ts : List Text) (m : Dict) (hlen : ts.length ≤ cs.length) (hnd : cs.Nodup) :
    ∃ m', assignCarriers cs ts m = .ok m' ∧
      (∀ a ∈ cs.zip ts, Dict.get m' (.de a.1) = some (.str a.2)) ∧
      (∀ k, (∀ a ∈ cs.zip ts, k ≠ .de a.1) → Dict.get m' k = Dict.get m k) := by
  fun_induction assignCarriers cs ts m with
  | case1 cs m => exact ⟨m, rfl, by simp, fun _ _ => rfl⟩
  | case2 => simp at hlen
  | case3 c cs t ts m ih =>
    obtain ⟨hc, hnd⟩ := List.nodup_cons.mp hnd
    obtain ⟨m', hm', hget, hother⟩ := ih (by simpa using hlen) hnd
    have hset : Dict.get m' (.de c) = some (.str t) := by
      rw [hother (.de c) fun a ha e => hc (Key.de.inj e ▸ (List.of_mem_zip (a := a.1) (b := a.2) ha).1),
        Dict.get_set, if_pos rfl]
    refine ⟨m', hm', fun a ha => ?_, fun k hk => ?_⟩
    · rcases List.mem_cons.mp ha with rfl | ha
      · exact hset
      · exact hget a ha
    · rw [hother k fun a ha => hk a (List.mem_cons_of_mem _ ha), Dict.get_set]
      exact if_neg (hk _ List.mem_cons_self).symm

theorem pdsWalk_outcome (k : IntClasses) (fuel : Nat) (t : Text) (acc : Dict) (hf : t.length < fuel) :
    (∃ d, pdsWalk k fuel t acc = .ok d) ∨ pdsWalk k fuel t acc = .escape .valueError := by
  fun_induction pdsWalk k fuel t acc with
  | case1 => exact absurd hf (Nat.not_lt_zero _)
  | case2 | case3 | case4 => simp
  | case5 fuel t acc he n hn ih =>
    have hpos : 0 < t.length := List.length_pos_iff.mpr (by simpa using he)
    have hlt : t.length - (7 + n) < t.length := Nat.sub_lt hpos (Nat.add_pos_left (by decide) n)
    exact ih (List.length_drop ▸ Nat.lt_of_lt_of_le hlt (Nat.le_of_lt_succ hf))

theorem iccAfter_length (b : Bytes) (h : b ≠ []) : (iccAfter b).length < b.length := by
  cases b with
  | nil => exact absurd rfl h
  | cons t0 rest =>
    simp only [iccAfter]
    split
    · simp only [List.length_drop, List.length_cons]; omega
    · simp

theorem iccWalk_outcome (fuel : Nat) (b : Bytes) (acc : Dict) (hf : b.length < fuel) :
    (∃ d, iccWalk fuel b acc = .ok d) ∨ iccWalk fuel b acc = .escape .structError := by
  fun_induction iccWalk fuel b acc with
  | case1 => exact absurd hf (Nat.not_lt_zero _)
  | case2 | case3 | case4 => simp
  | case5 fuel b acc he h0 len body hafter ih =>
    have hlen := iccAfter_length b (by simpa using he)
    rw [hafter, List.length_cons] at hlen
    have hb : body.length < fuel := Nat.lt_of_lt_of_le (Nat.lt_of_succ_lt hlen) (Nat.le_of_lt_succ hf)
    exact ih (Nat.lt_of_le_of_lt (List.length_drop ▸ Nat.sub_le ..) hb)

theorem pdsWalk_keys {P : Key → Prop} (hP : ∀ t, P (.pds t)) {k : IntClasses} {fuel : Nat} {t : Text} {acc d : Dict}
    (ha : ∀ kv ∈ acc, P kv.1) (h : pdsWalk k fuel t acc = .ok d) : ∀ kv ∈ d, P kv.1 := by
  fun_induction pdsWalk k fuel t acc with
  | case1 | case3 | case4 => cases h
  | case2 => cases h; exact ha
  | case5 _ _ _ _ _ _ ih => exact ih (Dict.forall_fst_set ha (hP _)) h

theorem iccWalk_keys {P : Key → Prop} (hP : ∀ t, P (.tag t)) {fuel : Nat} {b : Bytes} {acc d : Dict}
    (ha : ∀ kv ∈ acc, P kv.1) (h : iccWalk fuel b acc = .ok d) : ∀ kv ∈ d, P kv.1 := by
  fun_induction iccWalk fuel b acc with
  | case1 | case4 => cases h
  | case2 | case3 => cases h; exact ha
  | case5 _ _ _ _ _ _ _ _ ih => exact ih (Dict.forall_fst_set ha (hP _)) h

end Cardutil.Iso
