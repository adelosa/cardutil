import Cardutil.Lemmas.Pds
import Cardutil.Lemmas.IsoDict
import Cardutil.Lemmas.Sort
/-
  Round trip of messages that supply PDSxxxx keys: the encoder packs them into the carrier elements, the decoder
  walks the carriers.  Rests on Lemmas/Pds.lean (packing, walk) and on `core_roundtrip` for the message with the
  carriers assigned.
-/
namespace Cardutil.Iso

open Cardutil Cardutil.Py Cardutil.Digits

/-- a message's PDS sub-elements and the configuration's carriers, as the property admits them -/
structure PdsOK (env : Env) (cfg : Config) (m : Dict) (ents : List (Text × Text)) : Prop where
  /-- `ents` are the message's PDSxxxx entries (tag, value) in the encoder's (sorted) order -/
  entries : sortPds (pdsEntriesOf m) = ents.map (fun e => (e.1, Val.str e.2))
  /-- distinct 4-digit tags -/
  tags : ∀ e ∈ ents, ∃ ds, e.1 = digitText ds ∧ ds.length = 4 ∧ ∀ d ∈ ds, d < 10
  nodup : (ents.map (·.1)).Nodup
  /-- values of 0..992 encodable characters -/
  values : ∀ e ∈ ents, e.2.length ≤ 992 ∧ ∃ bs, env.codec.encode e.2 = some bs
  /-- total within the capacity of the configured carriers -/
  fits : (pdsPackP ents []).length ≤ (pdsCarriers cfg).length
  /-- the carriers are elements 2..128 configured as LLLVAR text with the PDS processor -/
  carriers : ∀ c ∈ pdsCarriers cfg, c ∈ allBits ∧
    ∃ f, cfg.get c = some f ∧ f.proc = .pds ∧ f.pytype = .str ∧ f.prefixLen = 3
  carriersNodup : (pdsCarriers cfg).Nodup
  /-- every element configured with the PDS processor is one of the carriers -/
  allCarriers : ∀ b f, cfg.get b = some f → f.proc = .pds → b ∈ pdsCarriers cfg
  /-- PDS keys are not mixed with directly supplied carrier values -/
  noDirect : ∀ c ∈ pdsCarriers cfg, Dict.get m (.de c) = none

theorem mem_pdsCarriers_of_get {cfg : Config} {b : Nat} {f : FieldCfg} (h : cfg.get b = some f) (hp : f.proc = .pds) :
    b ∈ pdsCarriers cfg :=
  (pdsCarriers_perm cfg).mem_iff.mpr
    (List.mem_map.mpr ⟨(b, f), List.mem_filter.mpr ⟨Config.mem_of_get h, by simp [hp]⟩, rfl⟩)

theorem PdsOK.wf {env : Env} {cfg : Config} {m : Dict} {ents : List (Text × Text)} (h : PdsOK env cfg m ents) :
    ∀ e ∈ ents, e.1.length = 4 ∧ e.2.length ≤ 992 := by
  intro e he
  obtain ⟨ds, h1, h2, _⟩ := h.tags e he
  exact ⟨by rw [h1]; simp [digitText, h2], (h.values e he).1⟩

theorem groupDict_nodup (g : List (Text × Text)) : (keys (groupDict g)).Nodup := nodup_update (by simp [keys]) _

theorem item_get_sub (it : Item) {k : Key} {v : Val} (hnd : (keys it.sub).Nodup)
    (hsub : Dict.get it.sub k = some v) : Dict.get it.dict k = some v := by
  unfold Item.dict
  rw [Dict.get_update_nodup hnd, hsub]; rfl

section
variable {env : Env} (henv : EnvOK env) {cfg : Config} {m : Dict} {ents : List (Text × Text)} (h : PdsOK env cfg m ents)
include henv h

theorem entry_encodable (e : Text × Text) (he : e ∈ ents) : ∃ bs, env.codec.encode (entryP e) = some bs := by
  obtain ⟨ds, h1, h2, h3⟩ := h.tags e he
  obtain ⟨hv, vb, hvb⟩ := h.values e he
  obtain ⟨tb, htb⟩ := encode_digits henv ds h3
  obtain ⟨lb, hlb, -⟩ := prefix_roundtrip henv 3 e.2.length (by decide) (by omega)
  refine ⟨tb ++ (lb ++ vb), ?_⟩
  rw [entryP, entryOf, h1]
  exact Codec.encode_append htb (Codec.encode_append hlb hvb)

theorem chunk_encodable (g : List (Text × Text)) (hg : ∀ e ∈ g, e ∈ ents) :
    ∃ bs, env.codec.encode (chunkOf g) = some bs := by
  induction g with
  | nil => exact ⟨[], rfl⟩
  | cons e es ih =>
    obtain ⟨b1, h1⟩ := entry_encodable henv h e (hg e (by simp))
    obtain ⟨b2, h2⟩ := ih (fun x hx => hg x (by simp [hx]))
    exact ⟨b1 ++ b2, by simpa [chunkOf] using Codec.encode_append h1 h2⟩

theorem pdsToDe_eq : pdsToDe env.classes m = .ok ((pdsPackP ents []).map chunkOf) := by
  rw [pdsToDe, h.entries, Outcome.mapO_map_ok _ _ entryP ents fun e he => ?_]
  · exact congrArg Outcome.ok (pdsPack_pairs ents [])
  · obtain ⟨ds, h1, h2, h3⟩ := h.tags e he
    rw [entryP, h1]; exact pdsEntryFor_digits henv.sane ds h3 h2 e.2

theorem carrier_derived {g : List (Text × Text)} (hg : g ∈ pdsPackP ents []) (c : Nat) {f : FieldCfg}
    (hproc : f.proc = .pds) :
    transform f (chunkOf g) = chunkOf g ∧ derived env c f (.str (chunkOf g)) = .ok (groupDict g) := by
  refine ⟨by simp [transform, hproc], ?_⟩
  unfold derived
  rw [hproc]
  simp only
  rw [pdsToDict_entries henv.sane g fun e he => h.wf e (mem_pdsPackP.mp ⟨g, hg, he⟩)]
  rfl

theorem carrier_wf {g : List (Text × Text)} (hg : g ∈ pdsPackP ents []) (c : Nat) {f : FieldCfg}
    (hproc : f.proc = .pds) (hty : f.pytype = .str) (hls : f.prefixLen = 3) :
    WFField env c f (.str (chunkOf g)) (.str (chunkOf g)) (groupDict g) := by
  have hle : ∀ e ∈ ents, (entryP e).length ≤ 999 := fun e he => entryP_le (h.wf e he)
  have hlen : (chunkOf g).length ≤ 999 :=
    pdsPack_le _ [] (by simp) (List.forall_mem_map.mpr hle) _ (pdsPack_pairs ents [] ▸ List.mem_map_of_mem hg)
  have hgne := pdsPackP_ne ents [] hle g hg
  obtain ⟨bs, hbs⟩ := chunk_encodable henv h g fun e he => mem_pdsPackP.mp ⟨g, hg, he⟩
  obtain ⟨htr, hd⟩ := carrier_derived henv h hg c hproc
  have := WFField.text (env := env) (bit := c) (f := f) (chunkOf g) bs (groupDict g)
    (by rw [hproc]; simp) hty hbs (mt chunkOf_eq_nil.mp hgne) (by intro h0; rw [hls] at h0; simp at h0)
    (by intro _; rw [hls]; omega) (by rw [htr]; exact hd)
  rw [htr] at this
  exact this

/-- a carrier that holds the group `g` derives `g`'s sub-elements -/
theorem carrier_sub {g : List (Text × Text)} (hg : g ∈ pdsPackP ents []) {c : Nat} {f : FieldCfg}
    (hproc : f.proc = .pds) {exp : Val} {sub : Dict} (hw : WFField env c f (.str (chunkOf g)) exp sub) :
    sub = groupDict g := by
  obtain ⟨htr, hd⟩ := carrier_derived henv h hg c hproc
  cases hw with
  | text t bs sub _ _ _ _ _ _ hsub => rw [htr, hd] at hsub; exact (Outcome.ok.inj hsub).symm
  | intText t n hp => rw [hp] at hproc; cases hproc
  | dateText t d bs hp => rw [hp] at hproc; cases hproc

end

theorem pds_roundtrip {env : Env} (henv : EnvOK env) (cfg : Config) (hexBitmap : Bool) (m : Dict)
    (ents : List (Text × Text)) (hp : PdsOK env cfg m ents)
    (ds : List Nat) (hds : ∀ d ∈ ds, d < 10) (hl : ds.length = 4)
    (hmti : Dict.get m .mti = some (.str (digitText ds)))
    (hwf : ElemsWF env cfg m allBits) :
    ∃ bs d, encode env cfg hexBitmap m = .ok bs ∧ decode env cfg hexBitmap bs = .ok d ∧
      Dict.get d .mti = some (.str (digitText ds)) ∧
      (∀ bit ∈ allBits, ∀ v, Dict.get m (.de bit) = some v → present v = true →
        ∃ f exp sub, cfg.get bit = some f ∧ WFField env bit f v exp sub ∧ Dict.get d (.de bit) = some exp) ∧
      (∀ e ∈ ents, Dict.get d (.pds e.1) = some (.str e.2)) := by
  have hfits : ((pdsPackP ents []).map chunkOf).length ≤ (pdsCarriers cfg).length := by simpa using hp.fits
  obtain ⟨m', hm', F1, F2⟩ := assignCarriers_zip _ _ m hfits hp.carriersNodup
  -- a carrier holds the text of one of the groups or nothing; everything else is as in `m`
  have hA : ∀ a ∈ (pdsCarriers cfg).zip ((pdsPackP ents []).map chunkOf), a.1 ∈ pdsCarriers cfg :=
    fun a ha => (List.of_mem_zip (a := a.1) (b := a.2) ha).1
  have hval : ∀ c ∈ pdsCarriers cfg, ∀ v, Dict.get m' (.de c) = some v →
      ∃ g ∈ pdsPackP ents [], v = .str (chunkOf g) := by
    intro c hc v hv
    by_cases hex : ∃ a ∈ (pdsCarriers cfg).zip ((pdsPackP ents []).map chunkOf), a.1 = c
    · obtain ⟨a, ha, rfl⟩ := hex
      obtain ⟨g, hg, e⟩ := List.mem_map.mp (List.of_mem_zip (a := a.1) (b := a.2) ha).2
      exact ⟨g, hg, by rw [e]; exact Option.some.inj (hv.symm.trans (F1 a ha))⟩
    · rw [F2 _ fun a ha e => hex ⟨a, ha, (Key.de.inj e).symm⟩, hp.noDirect c hc] at hv
      cases hv
  have hkeep : ∀ k, (∀ c ∈ pdsCarriers cfg, k ≠ .de c) → Dict.get m' k = Dict.get m k :=
    fun k hk => F2 k fun a ha => hk _ (hA a ha)
  have hwf' : ElemsWF env cfg m' allBits := by
    intro bit hb v hv hpv
    by_cases hc : bit ∈ pdsCarriers cfg
    · obtain ⟨g, hg, rfl⟩ := hval bit hc v hv
      obtain ⟨_, f, hf, hproc, hty, hls⟩ := hp.carriers bit hc
      exact ⟨f, _, _, hf, carrier_wf henv hp hg bit hproc hty hls⟩
    · rw [hkeep (.de bit) fun c hcc e => hc (Key.de.inj e ▸ hcc)] at hv
      exact hwf bit hb v hv hpv
  have hmti' : Dict.get m' .mti = some (.str (digitText ds)) := by rw [hkeep .mti fun _ _ => nofun]; exact hmti
  obtain ⟨bs, items, henc, hdec, hmap, hitems, hd⟩ := core_roundtrip henv cfg hexBitmap m' ds hds hl hmti' hwf'
  refine ⟨bs, _, ?_, hdec, hd.mti.trans hmti', ?_, ?_⟩
  · unfold encode
    rw [pdsToDe_eq henv hp]
    simp only [Outcome.bind, hm', henc]
  · -- the data elements the caller supplied (none of them is a carrier)
    intro bit hb v hv hpv
    have hnc : ∀ c ∈ pdsCarriers cfg, Key.de bit ≠ .de c := fun c hc e => by
      rw [Key.de.inj e, hp.noDirect c hc] at hv; cases hv
    exact hd.de bit hb v (by rw [hkeep _ hnc]; exact hv) hpv
  · -- `e` is in a group `g`, which some carrier holds; whoever else stores `PDS` + its tag holds a group too, and
    -- stores the value of the one entry with that tag
    intro e he
    obtain ⟨g, hg, heg⟩ := mem_pdsPackP.mpr he
    have hgm : chunkOf g ∈ ((pdsCarriers cfg).zip ((pdsPackP ents []).map chunkOf)).map Prod.snd := by
      rw [List.map_snd_zip hfits]; exact List.mem_map_of_mem hg
    obtain ⟨a, ha, hag⟩ := List.mem_map.mp hgm
    obtain ⟨hcall, f, hf, hproc, hty, hls⟩ := hp.carriers a.1 (hA a ha)
    have hcw := carrier_wf henv hp hg a.1 hproc hty hls
    obtain ⟨it, hit, hbit⟩ := List.mem_map.mp (hmap ▸ mem_emitted.mpr ⟨hcall, _, hag ▸ F1 a ha, wf_present hcw⟩)
    obtain ⟨v2, f2, hv2, _, hcfg2, hw2⟩ := hitems it hit
    rw [hbit] at hv2 hcfg2 hw2
    cases hf.symm.trans hcfg2
    cases (hag ▸ F1 a ha).symm.trans hv2
    have hsub := carrier_sub henv hp hg hproc hw2
    have hgnd : (g.map (·.1)).Nodup :=
      hp.nodup.sublist ((pdsPackP_flatten ents [] ▸ List.sublist_flatten_of_mem hg).map _)
    refine applyItems_get_agree (.inr ⟨it, hit, item_get_sub it (hsub ▸ groupDict_nodup _)
      (hsub ▸ groupDict_get g hgnd e heg)⟩) fun o ho w hw => ?_
    obtain ⟨_, fo, hvo, _, hcfgo, hwo⟩ := hitems o ho
    rcases item_mem_cases hw with h | h
    · cases h
    · by_cases hpo : fo.proc = .pds
      · obtain ⟨g', hg', rfl⟩ := hval _ (mem_pdsCarriers_of_get hcfgo hpo) _ hvo
        rw [carrier_sub henv hp hg' hpo hwo] at h
        obtain ⟨e', he', heq⟩ := mem_groupDict h
        obtain ⟨h1, h2⟩ := Prod.mk.inj heq
        cases inj_of_nodup_map hp.nodup he (mem_pdsPackP.mp ⟨g', hg', he'⟩) (Key.pds.inj h1)
        exact h2
      · exact absurd rfl ((wf_sub_keys henv hwo _ h).2 hpo e.1)

end Cardutil.Iso
