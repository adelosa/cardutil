import Cardutil.Model.Iso8583
import Cardutil.Lemmas.Insert
/-
  The key order of `_pds_to_de`: `sorted(keys)` modelled as an insertion sort by `textLt` (Python's string order),
  which is core's `<` on lists, so that core's order lemmas apply.  That sort and the carriers' are instances of
  `IsInsert` (Lemmas/Insert.lean).
-/
namespace Cardutil.Iso

theorem textLt_iff (a b : Text) : textLt a b = true ↔ a < b := by
  fun_induction textLt a b with
  | case1 | case2 | case3 => simp
  | case4 x xs y ys h1 => simp [List.cons_lt_cons_iff, h1]
  | case5 x xs y ys h1 h2 => simp [List.cons_lt_cons_iff, h1, show x ≠ y by omega]
  | case6 x xs y ys h1 h2 ih => simp [ih, show x = y by omega]

theorem textLt_eq_false_iff (a b : Text) : textLt a b = false ↔ b ≤ a := by
  rw [← Bool.not_eq_true, textLt_iff]; exact List.not_lt

def SortedByKey (l : List (Text × Val)) : Prop := l.Pairwise (fun a b => textLt b.1 a.1 = false)

theorem insertSorted_isInsert : IsInsert (fun y x => textLt y.1 x.1) insertSorted := ⟨fun _ => rfl, fun _ _ _ => rfl⟩

theorem sortPds_perm (l : List (Text × Val)) : (sortPds l).Perm l := insertSorted_isInsert.sort_perm l

/-- the encoder visits the PDS keys in ascending (string) order -/
theorem sortPds_sorted (l : List (Text × Val)) : SortedByKey (sortPds l) := by
  simp only [SortedByKey, textLt_eq_false_iff]
  exact insertSorted_isInsert.sort_pairwise (R := fun a b => a.1 ≤ b.1) (fun h => List.le_of_lt ((textLt_iff _ _).mp h))
    (textLt_eq_false_iff _ _).mp List.le_trans l

theorem insertNat_isInsert : IsInsert (fun y x => decide (y ≤ x)) insertNat :=
  ⟨fun _ => rfl, fun x y ys => by rw [insertNat]; simp only [decide_eq_true_eq]⟩

theorem pdsCarriers_perm (cfg : Config) : (pdsCarriers cfg).Perm ((cfg.filter (fun e => e.2.proc == .pds)).map (·.1)) :=
  insertNat_isInsert.sort_perm _

open Cardutil.Digits in
/-- for 4-digit tags the string order is the numeric order of the tags -/
theorem textLt_digits (a b : List Nat) (hl : a.length = b.length) (ha : ∀ d ∈ a, d < 10) (hb : ∀ d ∈ b, d < 10) :
    textLt (a.map (48 + ·)) (b.map (48 + ·)) = true ↔ fromDigits 10 a < fromDigits 10 b := by
  induction a generalizing b with
  | nil => cases b with
    | nil => exact iff_of_false Bool.false_ne_true (Nat.lt_irrefl _)
    | cons => cases hl
  | cons x xs ih =>
    cases b with
    | nil => cases hl
    | cons y ys =>
      have hl' : xs.length = ys.length := Nat.succ.inj hl
      have ha' : ∀ d ∈ xs, d < 10 := fun d hd => ha d (List.mem_cons_of_mem _ hd)
      have hb' : ∀ d ∈ ys, d < 10 := fun d hd => hb d (List.mem_cons_of_mem _ hd)
      rw [fromDigits_cons, fromDigits_cons, hl', place_lt (hl' ▸ fromDigits_lt xs ha') (fromDigits_lt ys hb'),
        ← ih ys hl' ha' hb', textLt_iff, textLt_iff, List.map_cons, List.map_cons, List.cons_lt_cons_iff,
        Nat.add_lt_add_iff_left, Nat.add_left_cancel_iff]

end Cardutil.Iso
