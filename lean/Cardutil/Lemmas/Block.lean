import Cardutil.Model.Block1014
/-
  The 1014 blockers (C04) and the validating unblocker (C05), for a symbolic payload size `P`.
  Data is whole chunks `cs` (each of `P` bytes) and a last chunk of at most `P` bytes; both blockers
  cut whole chunks off the front as they stand, so both are read off this one decomposition.
  The `payloads` lemmas hold for any byte string, well blocked or not.
-/
namespace Cardutil.Block

open Cardutil

theorem payloads_nil (P : Nat) : payloads P [] = [] := by rw [payloads]; simp

/-- the defining equation, without its guard -/
theorem payloads_eq (P : Nat) (f : Bytes) : payloads P f = f.take P ++ payloads P (f.drop (P + 2)) := by
  by_cases h : f.length = 0
  · simp [List.length_eq_zero_iff.mp h, payloads_nil]
  · rw [payloads, if_neg h]

theorem payloads_of_short {P : Nat} {f : Bytes} (h : f.length ≤ P + 2) : payloads P f = f.take P := by
  rw [payloads_eq, List.drop_eq_nil_iff.mpr h, payloads_nil, List.append_nil]

theorem length_payloads_le (P : Nat) (f : Bytes) : (payloads P f).length ≤ f.length := by
  induction f using payloads.induct (P := P) with
  | case1 f h => rw [payloads, if_pos h]; exact Nat.zero_le _
  | case2 f h ih =>
    -- `f` is its first `P` bytes and the rest, and the rest is at least what remains after the whole block
    have h2 : (f.drop (P + 2)).length ≤ (f.drop P).length := by
      rw [List.length_drop, List.length_drop]; exact Nat.sub_le_sub_left (Nat.le_add_right P 2) _
    have hf : (f.take P).length + (f.drop P).length = f.length := by rw [← List.length_append, List.take_append_drop]
    rw [payloads_eq, List.length_append, ← hf]
    exact Nat.add_le_add_left (Nat.le_trans ih h2) _

theorem take_payloads {P n : Nat} (hn : n ≤ P) (f : Bytes) : (payloads P f).take n = f.take n := by
  by_cases hl : P ≤ f.length
  · rw [payloads_eq, List.take_append_of_le_length (by rw [List.length_take]; omega), List.take_take,
      Nat.min_eq_left hn]
  · rw [payloads_of_short (by omega), List.take_take, Nat.min_eq_left hn]

/-- payload bytes that survive when a blocked file is cut after `n` bytes:
    `P` per complete block, and what is present of the next block's payload -/
def surv (P n : Nat) : Nat := if n < P + 2 then min n P else P + surv P (n - (P + 2))
termination_by n
decreasing_by omega

theorem payloads_take (P : Nat) (f : Bytes) (n : Nat) :
    payloads P (f.take n) = (payloads P f).take (surv P n) := by
  induction n using surv.induct (P := P) generalizing f with
  | case1 n hn =>
    rw [surv, if_pos hn, take_payloads (Nat.min_le_right _ _),
      payloads_of_short (Nat.le_trans (List.length_take_le n f) (Nat.le_of_lt hn)), List.take_take, Nat.min_comm]
  | case2 n hn ih =>
    rw [surv, if_neg hn, payloads_eq P (f.take n), payloads_eq P f, List.take_take,
      Nat.min_eq_left (Nat.le_of_add_right_le (Nat.le_of_not_lt hn)), List.drop_take, ih]
    have hle : (f.take P).length ≤ P + surv P (n - (P + 2)) := Nat.le_trans (List.length_take_le P f) (Nat.le_add_right _ _)
    by_cases hl : P ≤ f.length
    · rw [List.take_append, List.take_of_length_le hle, List.length_take, Nat.min_eq_left hl, Nat.add_sub_cancel_left]
    · rw [List.drop_eq_nil_iff.mpr (Nat.le_of_lt (Nat.lt_add_right 2 (Nat.lt_of_not_le hl))), payloads_nil]
      simp only [List.take_nil, List.append_nil]
      exact (List.take_of_length_le hle).symm

theorem payloads_cons {P : Nat} {b : Bytes} (rest : Bytes) (hb : b.length = P + 2) :
    payloads P (b ++ rest) = b.take P ++ payloads P rest := by
  rw [payloads_eq, List.take_append_of_le_length (by omega), List.drop_left' hb]

theorem wellBlocked_cons {P : Nat} {b : Bytes} (rest : Bytes) (hb : b.length = P + 2) :
    wellBlocked P (b ++ rest) = (b.drop P == PP && wellBlocked P rest) := by
  have hl : P + 2 ≤ (b ++ rest).length := by rw [List.length_append, hb]; exact Nat.le_add_right _ _
  have h0 : 0 < (b ++ rest).length := Nat.lt_of_lt_of_le (Nat.succ_pos _) hl
  have hP : P ≤ b.length := Nat.le_of_add_right_le (Nat.le_of_eq hb.symm)
  have h2 : (b.drop P).length = 2 := by rw [List.length_drop, hb, Nat.add_sub_cancel_left]
  rw [wellBlocked, if_neg (Nat.ne_of_gt h0), if_neg (Nat.not_lt.mpr hl), List.drop_append_of_le_length hP,
    List.drop_left' hb, List.take_append_of_le_length (Nat.le_of_eq h2.symm), List.take_of_length_le (Nat.le_of_eq h2)]

theorem wellBlocked_iff {P : Nat} {f : Bytes} (hne : f ≠ []) :
    wellBlocked P f = true ↔
      P + 2 ≤ f.length ∧ (f.drop P).take 2 = PP ∧ wellBlocked P (f.drop (P + 2)) = true := by
  rw [wellBlocked, if_neg (mt List.length_eq_zero_iff.mp hne)]
  by_cases h : f.length < P + 2
  · rw [if_pos h]
    exact iff_of_false Bool.false_ne_true fun h' => Nat.not_le.mpr h h'.1
  · rw [if_neg h, Bool.and_eq_true, beq_iff_eq]
    exact (and_iff_right (Nat.le_of_not_lt h)).symm

theorem wellBlocked_nil (P : Nat) : wellBlocked P [] = true := by rw [wellBlocked]; rfl

theorem unblock_nil (P : Nat) : unblock P [] = some [] := by rw [unblock]; rfl

theorem unblock_eq (P : Nat) (f : Bytes) :
    unblock P f = (if wellBlocked P f then some (payloads P f) else none) := by
  induction f using unblock.induct (P := P) with
  | case1 f h => rw [unblock, if_pos h, wellBlocked, if_pos h, payloads, if_pos h]; rfl
  | case2 f h0 h1 => rw [unblock, if_neg h0, if_pos h1, wellBlocked, if_neg h0, if_pos h1]; rfl
  | case3 f h0 h1 h2 =>
    rw [unblock, if_neg h0, if_neg h1, if_pos h2, wellBlocked, if_neg h0, if_neg h1]
    rw [bne, Bool.not_eq_true'] at h2
    rw [h2]; rfl
  | case4 f h0 h1 h2 ih =>
    rw [unblock, if_neg h0, if_neg h1, if_neg h2, wellBlocked, if_neg h0, if_neg h1, payloads, if_neg h0, ih]
    rw [Bool.not_eq_true, bne, Bool.not_eq_false'] at h2
    rw [h2]
    cases wellBlocked P (f.drop (P + 2)) <;> rfl

/-- every member is a whole block: `P` payload bytes and the trailer -/
def Blocks (P : Nat) (bs : List Bytes) : Prop := ∀ b ∈ bs, b.length = P + 2 ∧ b.drop P = PP

theorem Blocks.tail {P : Nat} {b : Bytes} {bs : List Bytes} (h : Blocks P (b :: bs)) : Blocks P bs :=
  fun x hx => h x (List.mem_cons_of_mem _ hx)

theorem Blocks.append {P : Nat} {a b : List Bytes} (ha : Blocks P a) (hb : Blocks P b) : Blocks P (a ++ b) :=
  List.forall_mem_append.mpr ⟨ha, hb⟩

theorem Blocks.fill (P : Nat) : Blocks P [fillBlock P] := by
  intro b hb
  have : b = fillBlock P := by simpa using hb
  subst this
  simp [fillBlock, PP]

theorem length_flatten_mod {n : Nat} {ls : List Bytes} (h : ∀ l ∈ ls, l.length = n) : ls.flatten.length % n = 0 := by
  induction ls with
  | nil => exact Nat.zero_mod n
  | cons x ls ih =>
    rw [List.forall_mem_cons] at h
    rw [List.flatten_cons, List.length_append, h.1, Nat.add_mod_left]; exact ih h.2

theorem payloads_blocks_append {P : Nat} {bs : List Bytes} (h : Blocks P bs) (t : Bytes) :
    payloads P (bs.flatten ++ t) = (bs.map (List.take P)).flatten ++ payloads P t := by
  induction bs with
  | nil => rfl
  | cons b bs ih =>
    simp only [List.flatten_cons, List.map_cons, List.append_assoc]
    rw [payloads_cons _ (h b (by simp)).1, ih h.tail]

theorem wellBlocked_blocks_append {P : Nat} {bs : List Bytes} (h : Blocks P bs) (t : Bytes) :
    wellBlocked P (bs.flatten ++ t) = wellBlocked P t := by
  induction bs with
  | nil => rfl
  | cons b bs ih =>
    obtain ⟨hb, ht⟩ := h b (by simp)
    simp only [List.flatten_cons, List.append_assoc]
    rw [wellBlocked_cons _ hb, ih h.tail, ht, beq_self_eq_true, Bool.true_and]

theorem unblock_blocks_append {P : Nat} {bs : List Bytes} (h : Blocks P bs) (t : Bytes) :
    unblock P (bs.flatten ++ t) = (unblock P t).map ((bs.map (List.take P)).flatten ++ ·) := by
  rw [unblock_eq, unblock_eq, wellBlocked_blocks_append h, payloads_blocks_append h]
  split <;> rfl

theorem wellBlocked_blocks {P : Nat} {bs : List Bytes} (h : Blocks P bs) :
    wellBlocked P bs.flatten = true := by
  have := wellBlocked_blocks_append h []
  rwa [List.append_nil, wellBlocked_nil] at this

theorem unblock_blocks {P : Nat} {bs : List Bytes} (h : Blocks P bs) :
    unblock P bs.flatten = some (bs.map (List.take P)).flatten := by
  have := unblock_blocks_append h []
  rwa [List.append_nil, unblock_nil, Option.map_some, List.append_nil] at this

/-- the block that carries chunk `c`: `c`, filled up to `P` bytes, then the trailer -/
def mkBlock (P : Nat) (c : Bytes) : Bytes := c ++ List.replicate (P - c.length) padByte ++ PP

theorem length_mkBlock {P : Nat} {c : Bytes} (h : c.length ≤ P) : (mkBlock P c).length = P + 2 := by
  simp [mkBlock, PP]; omega

theorem take_mkBlock {P : Nat} {c : Bytes} (h : c.length ≤ P) :
    (mkBlock P c).take P = c ++ List.replicate (P - c.length) padByte :=
  List.take_left' (by rw [List.length_append, List.length_replicate, Nat.add_sub_cancel' h])

theorem mkBlock_full {P : Nat} {c : Bytes} (h : c.length = P) : mkBlock P c = c ++ PP := by
  simp [mkBlock, h]

theorem Blocks.map_mkBlock {P : Nat} {cs : List Bytes} (h : ∀ c ∈ cs, c.length ≤ P) : Blocks P (cs.map (mkBlock P)) := by
  intro b hb
  obtain ⟨c, hc, rfl⟩ := List.mem_map.mp hb
  refine ⟨length_mkBlock (h c hc), ?_⟩
  unfold mkBlock
  exact List.drop_left' (by simp; have := h c hc; omega)

theorem payloads_full_append {P : Nat} {cs : List Bytes} (h : ∀ c ∈ cs, c.length = P) (t : Bytes) :
    payloads P ((cs.map (mkBlock P)).flatten ++ t) = cs.flatten ++ payloads P t := by
  rw [payloads_blocks_append (Blocks.map_mkBlock fun c hc => Nat.le_of_eq (h c hc)), List.map_map,
    List.map_congr_left (g := id) fun c hc => by simp [take_mkBlock (Nat.le_of_eq (h c hc)), h c hc], List.map_id]

/-- `d` in pieces of `P` bytes as `blockify` reads them; the last piece is not empty and may be shorter -/
def chunks (P : Nat) (d : Bytes) : List Bytes :=
  if d.length = 0 then []
  else if P < d.length ∧ 0 < P then d.take P :: chunks P (d.drop P)
  else [d]
termination_by d.length
decreasing_by simp [List.length_drop]; omega

theorem chunks_short {P : Nat} {c : Bytes} (h : c.length ≤ P) : chunks P c = if c = [] then [] else [c] := by
  rw [chunks, if_neg (by omega : ¬ (P < c.length ∧ 0 < P))]
  simp [List.length_eq_zero_iff]

theorem chunks_cons {P : Nat} (hP : 0 < P) {x : Bytes} (hx : x.length = P) (t : Bytes) :
    chunks P (x ++ t) = x :: chunks P t := by
  rw [chunks, List.length_append, hx, if_neg (Nat.ne_of_gt (Nat.add_pos_left hP _))]
  by_cases ht : t = []
  · subst ht
    rw [if_neg fun h => Nat.lt_irrefl P h.1, chunks_short (Nat.zero_le P), if_pos rfl, List.append_nil]
  · have := List.length_pos_iff.mpr ht
    rw [if_pos ⟨Nat.lt_add_of_pos_right this, hP⟩, List.take_left' hx, List.drop_left' hx]

theorem chunks_flatten_append {P : Nat} (hP : 0 < P) {cs : List Bytes} (h : ∀ c ∈ cs, c.length = P) (t : Bytes) :
    chunks P (cs.flatten ++ t) = cs ++ chunks P t := by
  induction cs with
  | nil => rfl
  | cons x cs ih =>
    rw [List.forall_mem_cons] at h
    rw [List.flatten_cons, List.append_assoc, chunks_cons hP h.1, ih h.2, List.cons_append]

theorem blockify_eq_chunks (P : Nat) (d : Bytes) :
    blockify P d = ((chunks P d).map (mkBlock P)).flatten := by
  induction d using chunks.induct (P := P) with
  | case1 d h => rw [chunks, blockify, if_pos h, if_pos h]; rfl
  | case2 d h0 hc ih =>
    rw [chunks, blockify, if_neg h0, if_pos hc, if_neg h0, if_pos hc, List.map_cons, List.flatten_cons, ih,
      mkBlock_full (List.length_take_of_le (Nat.le_of_lt hc.1))]
  | case3 d h0 hc =>
    rw [chunks, blockify, if_neg h0, if_neg hc, if_neg h0, if_neg hc]
    simp [mkBlock]

theorem blockify_flatten_append {P : Nat} (hP : 0 < P) {cs : List Bytes} (h : ∀ c ∈ cs, c.length = P) (t : Bytes) :
    blockify P (cs.flatten ++ t) = (cs.map (mkBlock P)).flatten ++ blockify P t := by
  rw [blockify_eq_chunks, chunks_flatten_append hP h, List.map_append, List.flatten_append, ← blockify_eq_chunks]

theorem blockify_short {P : Nat} {c : Bytes} (h : c.length ≤ P) :
    blockify P c = if c = [] then [] else mkBlock P c := by
  rw [blockify_eq_chunks, chunks_short h]
  split <;> simp

/-- one round of the one-shot blocker: the next `P` bytes, filled up if they are the last -/
theorem blockify_cons {P : Nat} (hP : 0 < P) (x : Nat) (xs : Bytes) :
    blockify P (x :: xs) = mkBlock P ((x :: xs).take P) ++ blockify P ((x :: xs).drop P) := by
  rw [blockify, if_neg (show (x :: xs).length ≠ 0 from Nat.succ_ne_zero _)]
  by_cases h : P < (x :: xs).length
  · rw [if_pos ⟨h, hP⟩, mkBlock_full (List.length_take_of_le (Nat.le_of_lt h))]
  · rw [if_neg (fun hc => h hc.1), List.drop_of_length_le (Nat.le_of_not_lt h), List.take_of_length_le (Nat.le_of_not_lt h),
      blockify_short (Nat.zero_le P), if_pos rfl, List.append_nil]
    rfl

theorem wloop_spec {P : Nat} (hP : 0 < P) (b : Bytes) :
    ∃ cs : List Bytes, (∀ c ∈ cs, c.length = P) ∧ b = cs.flatten ++ (wloop P b).2 ∧
      (wloop P b).1 = (cs.map (mkBlock P)).flatten ∧ (wloop P b).2.length ≤ P := by
  induction b using wloop.induct (P := P) with
  | case1 b hc ih =>
    obtain ⟨cs, hf, hb, ho, hle⟩ := ih
    have ht : (b.take P).length = P := List.length_take_of_le (Nat.le_of_lt hc.1)
    rw [wloop, if_pos hc]
    refine ⟨b.take P :: cs, List.forall_mem_cons.mpr ⟨ht, hf⟩, ?_, ?_, hle⟩
    · rw [List.flatten_cons, List.append_assoc, ← hb, List.take_append_drop]
    · simp only [ho, List.map_cons, List.flatten_cons, mkBlock_full ht]
  | case2 b hc =>
    rw [wloop, if_neg hc]
    exact ⟨[], List.forall_mem_nil _, rfl, rfl, Nat.le_of_not_lt fun h => hc ⟨h, hP⟩⟩

theorem wloop_snd_le {P : Nat} (hP : 0 < P) (b : Bytes) : (wloop P b).2.length ≤ P := by
  obtain ⟨_, _, _, _, hle⟩ := wloop_spec hP b
  exact hle

/-- any byte string is whole `P`-chunks and a rest of at most `P` bytes: the cut that `wloop` makes -/
theorem exists_cut {P : Nat} (hP : 0 < P) (d : Bytes) :
    ∃ (cs : List Bytes) (c : Bytes), (∀ x ∈ cs, x.length = P) ∧ c.length ≤ P ∧ d = cs.flatten ++ c := by
  obtain ⟨cs, hf, hb, _, hle⟩ := wloop_spec hP d
  exact ⟨cs, _, hf, hle, hb⟩

/-- the blocker holds the partial chunk `c`, and `remaining_chars = P - |c|` -/
theorem write_spec {P : Nat} (hP : 0 < P) {c : Bytes} {rem : Nat} (hc : c.length + rem = P) (w : Bytes) :
    ∃ (cs : List Bytes) (c' : Bytes), (∀ x ∈ cs, x.length = P) ∧ c'.length + (write P rem w).2 = P ∧
      c ++ w = cs.flatten ++ c' ∧ c ++ (write P rem w).1 = (cs.map (mkBlock P)).flatten ++ c' := by
  unfold write
  by_cases hlt : w.length < rem
  · rw [if_pos hlt]
    refine ⟨[], c ++ w, List.forall_mem_nil _, ?_, rfl, rfl⟩
    rw [List.length_append, Nat.add_assoc, Nat.add_sub_cancel' (Nat.le_of_lt hlt), hc]
  · rw [if_neg hlt]
    obtain ⟨cs, hf, hb, ho, hle⟩ := wloop_spec hP (w.drop rem)
    have hx : (c ++ w.take rem).length = P := by rw [List.length_append, List.length_take_of_le (Nat.le_of_not_lt hlt), hc]
    refine ⟨(c ++ w.take rem) :: cs, (wloop P (w.drop rem)).2, List.forall_mem_cons.mpr ⟨hx, hf⟩,
      Nat.add_sub_cancel' hle, ?_, ?_⟩
    · rw [List.flatten_cons, List.append_assoc, List.append_assoc, ← hb, List.take_append_drop]
    · simp only [ho, List.map_cons, List.flatten_cons, mkBlock_full hx, List.append_assoc]

theorem writes_spec {P : Nat} (hP : 0 < P) (ws : List Bytes) {c : Bytes} {rem : Nat} (hc : c.length + rem = P) :
    ∃ (cs : List Bytes) (c' : Bytes), (∀ x ∈ cs, x.length = P) ∧ c'.length + (writes P rem ws).2 = P ∧
      c ++ ws.flatten = cs.flatten ++ c' ∧ c ++ (writes P rem ws).1 = (cs.map (mkBlock P)).flatten ++ c' := by
  induction ws generalizing c rem with
  | nil => exact ⟨[], c, by simp, hc, by simp, by simp [writes]⟩
  | cons w ws ih =>
    obtain ⟨cs₁, c₁, hf₁, hc₁, hd₁, ho₁⟩ := write_spec hP hc w
    obtain ⟨cs₂, c₂, hf₂, hc₂, hd₂, ho₂⟩ := ih hc₁
    refine ⟨cs₁ ++ cs₂, c₂, List.forall_mem_append.mpr ⟨hf₁, hf₂⟩, hc₂, ?_, ?_⟩
    · rw [List.flatten_cons, ← List.append_assoc, hd₁, List.append_assoc, hd₂, List.flatten_append, List.append_assoc]
    · rw [writes]
      dsimp only
      rw [← List.append_assoc, ho₁, List.append_assoc, ho₂, List.map_append, List.flatten_append, List.append_assoc]

/-- an empty last chunk is rendered as the fill block, which `blockify` omits; it is empty when
    `remaining_chars` is back at `P` at finalisation (nothing written, or the last write ended a
    block and wrote its trailer) -/
theorem stream_render {P : Nat} (hP : 0 < P) (ws : List Bytes) :
    ∃ (cs : List Bytes) (c : Bytes), (∀ x ∈ cs, x.length = P) ∧ c.length + (writes P P ws).2 = P ∧
      ws.flatten = cs.flatten ++ c ∧ stream P ws = ((cs ++ [c]).map (mkBlock P)).flatten := by
  obtain ⟨cs, c, hf, hc, hd, ho⟩ := writes_spec hP ws (c := []) (Nat.zero_add P)
  refine ⟨cs, c, hf, hc, hd, ?_⟩
  rw [stream, finalise, ← List.nil_append (writes P P ws).1, ho]
  simp [mkBlock, show P - c.length = (writes P P ws).2 from Nat.sub_eq_of_eq_add' hc.symm, PP, List.replicate_succ']

theorem stream_eq {P : Nat} (hP : 0 < P) (ws : List Bytes) :
    stream P ws = blockify P ws.flatten ++ if (writes P P ws).2 = P then fillBlock P else [] := by
  obtain ⟨cs, c, hf, hc, hd, hs⟩ := stream_render hP ws
  rw [hs, hd, blockify_flatten_append hP hf, blockify_short (Nat.le.intro hc), List.map_append, List.flatten_append]
  by_cases h0 : c = []
  · subst h0
    simp [show (writes P P ws).2 = P from (Nat.zero_add _).symm.trans hc, mkBlock, fillBlock, PP, List.replicate_succ']
  · have hne : (writes P P ws).2 ≠ P := fun e => h0 (List.length_eq_zero_iff.mp (Nat.add_eq_right.mp (e ▸ hc)))
    simp [h0, hne]

theorem stream_ne_nil (P : Nat) (ws : List Bytes) : stream P ws ≠ [] := by
  simp [stream, finalise, List.replicate_succ]

theorem writes_append (P : Nat) (rem : Nat) (a b : List Bytes) :
    writes P rem (a ++ b) =
      ((writes P rem a).1 ++ (writes P (writes P rem a).2 b).1, (writes P (writes P rem a).2 b).2) := by
  induction a generalizing rem with
  | nil => simp [writes]
  | cons w ws ih => simp [writes, ih, List.append_assoc]

theorem Blocks.of_chunks {P : Nat} (hP : 0 < P) (d : Bytes) : Blocks P ((chunks P d).map (mkBlock P)) := by
  obtain ⟨cs, c, hf, hle, rfl⟩ := exists_cut hP d
  rw [chunks_flatten_append hP hf, chunks_short hle]
  refine Blocks.map_mkBlock fun x hx => ?_
  rcases List.mem_append.mp hx with h | h
  · exact Nat.le_of_eq (hf x h)
  · split at h
    · simp at h
    · rw [List.mem_singleton.mp h]; exact hle

theorem payloads_blockify {P : Nat} (hP : 0 < P) (d : Bytes) :
    ∃ k, k < P ∧ (d.length + k) % P = 0 ∧
      payloads P (blockify P d) = d ++ List.replicate k padByte := by
  obtain ⟨cs, c, hf, hle, rfl⟩ := exists_cut hP d
  rw [blockify_flatten_append hP hf, payloads_full_append hf, blockify_short hle]
  by_cases h0 : c = []
  · subst h0
    exact ⟨0, hP, by rw [List.append_nil, Nat.add_zero, length_flatten_mod hf], by simp [payloads_nil]⟩
  · have := List.length_pos_iff.mpr h0
    refine ⟨P - c.length, Nat.sub_lt hP this, ?_, ?_⟩
    · rw [List.length_append, Nat.add_assoc, Nat.add_sub_cancel' hle, Nat.add_mod_right, length_flatten_mod hf]
    · rw [if_neg h0, payloads_of_short (Nat.le_of_eq (length_mkBlock hle)), take_mkBlock hle, List.append_assoc]

theorem wellBlocked_blockify {P : Nat} (hP : 0 < P) (d : Bytes) : wellBlocked P (blockify P d) = true := by
  rw [blockify_eq_chunks]; exact wellBlocked_blocks (Blocks.of_chunks hP d)

theorem stream_blocks {P : Nat} (hP : 0 < P) (ws : List Bytes) :
    ∃ extra : List Bytes, (extra = [] ∨ extra = [fillBlock P]) ∧
      stream P ws = ((chunks P ws.flatten).map (mkBlock P) ++ extra).flatten ∧
      Blocks P ((chunks P ws.flatten).map (mkBlock P) ++ extra) := by
  rw [stream_eq hP, blockify_eq_chunks]
  split
  · exact ⟨[fillBlock P], Or.inr rfl, by simp, (Blocks.of_chunks hP _).append (Blocks.fill P)⟩
  · exact ⟨[], Or.inl rfl, by simp, by simpa using Blocks.of_chunks hP ws.flatten⟩

theorem stream_length {P : Nat} (hP : 0 < P) (ws : List Bytes) : (stream P ws).length % (P + 2) = 0 := by
  obtain ⟨extra, _, he, hb⟩ := stream_blocks hP ws
  rw [he]; exact length_flatten_mod fun b h => (hb b h).1

theorem stream_wellBlocked {P : Nat} (hP : 0 < P) (ws : List Bytes) : wellBlocked P (stream P ws) = true := by
  obtain ⟨extra, _, he, hb⟩ := stream_blocks hP ws
  rw [he]; exact wellBlocked_blocks hb

theorem stream_payloads {P : Nat} (hP : 0 < P) (ws : List Bytes) :
    ∃ k, k ≤ P ∧ payloads P (stream P ws) = ws.flatten ++ List.replicate k padByte := by
  obtain ⟨cs, c, hf, hc, hd, hs⟩ := stream_render hP ws
  have hle : c.length ≤ P := Nat.le.intro hc
  refine ⟨P - c.length, Nat.sub_le _ _, ?_⟩
  rw [hs, hd, List.map_append, List.flatten_append, payloads_full_append hf, List.map_singleton, List.flatten_singleton,
    payloads_of_short (Nat.le_of_eq (length_mkBlock hle)), take_mkBlock hle, List.append_assoc]

/-- eager form: every complete `P`-chunk followed by its trailer, then the partial chunk -/
def E (P : Nat) (d : Bytes) : Bytes :=
  if P ≤ d.length ∧ 0 < P then d.take P ++ PP ++ E P (d.drop P) else d
termination_by d.length
decreasing_by simp [List.length_drop]; omega

theorem E_short {P : Nat} {d : Bytes} (h : d.length < P) : E P d = d := by
  rw [E]; simp; omega

theorem E_nil {P : Nat} : E P [] = [] := by
  rw [E, if_neg]; simp

theorem E_exact {P : Nat} (hP : 0 < P) {d : Bytes} (h : d.length = P) : E P d = d ++ PP := by
  rw [E]
  have h1 : P ≤ d.length ∧ 0 < P := by omega
  simp only [h1, and_self, if_true]
  have : d.drop P = [] := by simp [List.drop_eq_nil_iff, h]
  rw [this, E_nil, ← h]; simp

theorem E_append {P : Nat} (hP : 0 < P) (a b : Bytes) {k : Nat} (h : a.length = k * P) :
    E P (a ++ b) = E P a ++ E P b := by
  induction k generalizing a with
  | zero =>
    have : a = [] := by simpa using h
    subst this; simp [E_nil]
  | succ k ih =>
    have hl : P ≤ a.length := h ▸ Nat.le_mul_of_pos_left P k.succ_pos
    have hab : P ≤ (a ++ b).length := List.length_append ▸ Nat.le_add_right_of_le hl
    rw [E.eq_1 P (a ++ b), if_pos ⟨hab, hP⟩, E.eq_1 P a, if_pos ⟨hl, hP⟩, List.take_append_of_le_length hl,
      List.drop_append_of_le_length hl,
      ih (a.drop P) (by rw [List.length_drop, h, Nat.succ_mul, Nat.add_sub_cancel]), List.append_assoc _ _ (E P b)]

end Cardutil.Block
