import Cardutil.Lemmas.IsoMsg
import Cardutil.Lemmas.Pds
/-
  Reading the decoded dictionary: which keys a well-formed element derives and which key maps to what after the
  per-element accumulation (`Item`, `applyItems`).  At the end `core_roundtrip`, the message round trip
  `decode (encodeCore m)` with the dictionary read back: C01, the PDS round trip (Lemmas/IsoPds.lean) and C19 rest on it.
-/
namespace Cardutil.Iso

open Cardutil Cardutil.Py

/-- keys that only a field processor produces -/
def Key.isDerived : Key → Bool
  | .pds _ => true
  | .tag _ => true
  | .iccData => true
  | .de43 _ => true
  | _ => false

def DerivedOnly (d : Dict) : Prop := ∀ kv ∈ d, kv.1.isDerived = true

/-- the keys an element configured as `f` derives: processor keys only, `PDSxxxx` only under the PDS processor -/
def SubKey (f : FieldCfg) (k : Key) : Prop := k.isDerived = true ∧ (f.proc ≠ .pds → ∀ t, k ≠ .pds t)

theorem wf_sub_keys {env : Env} (henv : EnvOK env) {bit : Nat} {f : FieldCfg} {v exp : Val} {sub : Dict}
    (hw : WFField env bit f v exp sub) : ∀ kv ∈ sub, SubKey f kv.1 := by
  have hnil : ∀ kv ∈ ([] : Dict), SubKey f kv.1 := fun kv hkv => nomatch hkv
  cases hw with
  | text t bs sub hproc hty henc hne hfix hvar hsub =>
    unfold derived at hsub
    split at hsub
    · rename_i hpds
      exact pdsWalk_keys (fun _ => ⟨rfl, fun hp => absurd hpds hp⟩) hnil (Outcome.catchAs_eq_ok.mp hsub)
    · cases hsub
      intro kv hkv
      obtain ⟨n, hn⟩ := henv.de43keys _ _ kv hkv
      rw [hn]; exact ⟨rfl, fun _ _ => nofun⟩
    · cases hsub; exact hnil
  | int n => exact hnil
  | intText t n => exact hnil
  | dateText t d bs => exact hnil
  | date d bs => exact hnil
  | icc b sub hproc hty hne hfix hvar hsub =>
    refine iccWalk_keys (fun _ => ⟨rfl, fun _ _ => nofun⟩) ?_ hsub
    intro kv hkv
    cases List.mem_singleton.mp hkv
    exact ⟨rfl, fun _ _ => nofun⟩

theorem DerivedOnly.ne {d : Dict} (h : DerivedOnly d) {kv : Key × Val} (hkv : kv ∈ d) {k : Key}
    (hk : k.isDerived = false) : kv.1 ≠ k := by
  intro e
  have := h kv hkv
  rw [e, hk] at this
  cases this

theorem item_get_own (it : Item) (hs : DerivedOnly it.sub) : Dict.get it.dict (.de it.bit) = some it.exp := by
  unfold Item.dict
  rw [Dict.get_update_other fun _ hkv => hs.ne hkv rfl, Dict.get_cons, if_pos rfl]

theorem item_mem_cases {it : Item} {kv : Key × Val} (h : kv ∈ it.dict) : kv = (.de it.bit, it.exp) ∨ kv ∈ it.sub := by
  rcases Dict.mem_update h with h1 | h1
  · exact Or.inl (by simpa using h1)
  · exact Or.inr h1

/-- the decoder's accumulation is ONE update of the accumulator, with everything the elements store, in order -/
theorem applyItems_eq_update (acc : Dict) (items : List Item) :
    applyItems acc items = Dict.update acc (items.flatMap (·.dict)) := List.foldl_flatMap.symm

/-- whatever the elements store under `k` is `v`, and `k` is stored: the order of the elements does not matter -/
theorem applyItems_get_agree {acc : Dict} {items : List Item} {k : Key} {v : Val}
    (hv : Dict.get acc k = some v ∨ ∃ it ∈ items, Dict.get it.dict k = some v)
    (hall : ∀ o ∈ items, ∀ w, (k, w) ∈ o.dict → w = v) :
    Dict.get (applyItems acc items) k = some v := by
  rw [applyItems_eq_update]
  refine Dict.get_update_agree
    (hv.imp_right fun ⟨it, hit, h⟩ => List.mem_flatMap.mpr ⟨it, hit, Dict.mem_of_get h⟩) fun w hw => ?_
  obtain ⟨o, ho, h⟩ := List.mem_flatMap.mp hw
  exact hall o ho w h

theorem applyItems_get_de {acc : Dict} {items : List Item} (hnd : (items.map (·.bit)).Nodup)
    (hs : ∀ it ∈ items, DerivedOnly it.sub) {it : Item} (hit : it ∈ items) :
    Dict.get (applyItems acc items) (.de it.bit) = some it.exp := by
  refine applyItems_get_agree (.inr ⟨it, hit, item_get_own it (hs it hit)⟩) fun o ho w hw => ?_
  rcases item_mem_cases hw with h | h
  · injection h with hb hw
    cases inj_of_nodup_map hnd hit ho (Key.de.inj hb)
    exact hw
  · exact absurd rfl ((hs o ho).ne h rfl)

theorem applyItems_mem {acc : Dict} {items : List Item} {kv : Key × Val} (h : kv ∈ applyItems acc items) :
    kv ∈ acc ∨ ∃ it ∈ items, kv.1 = .de it.bit ∨ kv ∈ it.sub := by
  rw [applyItems_eq_update] at h
  refine (Dict.mem_update h).imp_right fun h1 => ?_
  obtain ⟨it, hit, h2⟩ := List.mem_flatMap.mp h1
  exact ⟨it, hit, (item_mem_cases h2).imp_left fun e => by rw [e]⟩

/-- what `decode (encode m)` is, for whoever reads it key by key: the MTI, the expected value of every present
    element, and no other key than those and what the elements' processors derive -/
structure Decoded (env : Env) (cfg : Config) (m d : Dict) : Prop where
  mti : Dict.get d .mti = Dict.get m .mti
  de : ∀ bit ∈ allBits, ∀ v, Dict.get m (.de bit) = some v → present v = true →
    ∃ f exp sub, cfg.get bit = some f ∧ WFField env bit f v exp sub ∧ Dict.get d (.de bit) = some exp
  keys : ∀ kv ∈ d, kv.1 = .mti ∨ (∃ bit v, kv.1 = .de bit ∧ Dict.get m (.de bit) = some v ∧ present v = true) ∨
    ∃ bit f, cfg.get bit = some f ∧ SubKey f kv.1

/-- the message round trip: the decoded dictionary as the accumulation over one `Item` per present element (for the
    PDS round trip, which reads derived keys) and read back key by key (`Decoded`, for everything else) -/
theorem core_roundtrip {env : Env} (h : EnvOK env) (cfg : Config) (hexBitmap : Bool) (m : Dict)
    (ds : List Nat) (hds : ∀ d ∈ ds, d < 10) (hl : ds.length = 4)
    (hmti : Dict.get m .mti = some (.str (digitText ds)))
    (hwf : ElemsWF env cfg m allBits) :
    ∃ (bs : Bytes) (items : List Item),
      encodeCore env cfg hexBitmap m = .ok bs ∧
      decode env cfg hexBitmap bs = .ok (applyItems [(.mti, .str (digitText ds))] items) ∧
      items.map (·.bit) = emitted m allBits ∧ (∀ it ∈ items, ItemFor env cfg m it) ∧
      Decoded env cfg m (applyItems [(.mti, .str (digitText ds))] items) := by
  obtain ⟨parts, items, hparts, hmap, hitems, hdec⟩ := emitted_roundtrip h cfg m allBits hwf
  obtain ⟨mb, hmb⟩ := encode_digits h ds hds
  have hmbl : mb.length = 4 := by
    have := Codec.encode_length hmb; simpa [digitText, hl] using this
  have hne : ds ≠ [] := by intro h0; subst h0; simp at hl
  have hmtiE : encodeMti env m = .ok mb := by
    have : (digitText ds).isEmpty = false := by
      cases ds with
      | nil => exact absurd rfl hne
      | cons _ _ => rfl
    simp only [encodeMti, hmti, this, Bool.false_eq_true, if_false, encodeText_eq_ok.mpr hmb]
  have hnd : (items.map (·.bit)).Nodup := hmap ▸ (List.filter_sublist.nodup allBits_nodup)
  have hder : ∀ it ∈ items, DerivedOnly it.sub := fun it hit => by
    obtain ⟨v, f, _, _, _, hw⟩ := hitems it hit
    exact fun kv hkv => (wf_sub_keys h hw kv hkv).1
  refine ⟨_, items, encodeCore_eq_ok.mpr ⟨parts, hparts, mb, hmtiE, rfl⟩, ?_, hmap, hitems, ?_, ?_, ?_⟩
  · have := hdec [] [] [(.mti, .str (digitText ds))]
    simp only [List.nil_append, List.append_nil, List.length_nil, Nat.zero_add] at this
    rw [decode, bitmapBytes, decodeHeader_append hexBitmap _ hmbl (Codec.decode_encode h.lawful hmb)
        (pyInt_digits h.sane ds hds hne) (bitmapOf_length _) (bitmapOf_lt _),
      Outcome.bind, decodeBody, presentBits_emitted, this]
    simp [Outcome.bind]
  · rw [hmti]
    refine applyItems_get_agree (.inl rfl) fun o ho w hw => ?_
    rcases item_mem_cases hw with h1 | h1
    · cases h1
    · exact absurd rfl ((hder o ho).ne h1 rfl)
  · intro bit hb v hv hp
    obtain ⟨it, hit, rfl⟩ := List.mem_map.mp (hmap ▸ mem_emitted.mpr ⟨hb, v, hv, hp⟩)
    obtain ⟨v', f, hv', _, hcfg, hw⟩ := hitems it hit
    cases hv.symm.trans hv'
    exact ⟨f, _, _, hcfg, hw, applyItems_get_de hnd hder hit⟩
  · intro kv hkv
    rcases applyItems_mem hkv with h1 | ⟨it, hit, h1⟩
    · cases List.mem_singleton.mp h1; exact .inl rfl
    · obtain ⟨v, f, hv, hp, hcfg, hw⟩ := hitems it hit
      exact h1.elim (fun h2 => .inr (.inl ⟨it.bit, v, h2, hv, hp⟩))
        fun h2 => .inr (.inr ⟨_, f, hcfg, wf_sub_keys h hw kv h2⟩)

/-- the key clause without the element that derives a key -/
theorem Decoded.keys_derived {env : Env} {cfg : Config} {m d : Dict} (hd : Decoded env cfg m d) :
    ∀ kv ∈ d, kv.1 = .mti ∨ (∃ bit v, kv.1 = .de bit ∧ Dict.get m (.de bit) = some v ∧ present v = true) ∨
      kv.1.isDerived = true :=
  fun kv hkv => (hd.keys kv hkv).imp_right (.imp_right fun ⟨_, _, _, h⟩ => h.1)

theorem Decoded.no_pds {env : Env} {cfg : Config} {m d : Dict} (hd : Decoded env cfg m d)
    (hnp : ∀ bit f, cfg.get bit = some f → f.proc ≠ .pds) : pdsEntriesOf d = [] := by
  refine List.filterMap_eq_nil_iff.mpr fun kv hkv => ?_
  rcases hd.keys kv hkv with h | ⟨_, _, h, _⟩ | ⟨bit, f, hcfg, hk⟩
  · rw [h]
  · rw [h]
  · cases hk' : kv.1 with
    | pds t => exact absurd hk' (hk.2 (hnp bit f hcfg) t)
    | _ => rfl

end Cardutil.Iso
