import Cardutil.Lemmas.IsoDict
/-
  Messages the encoder cannot tell apart (`sameEnc`, `encodeCore_congr`).  For configurations without PAN masking
  the decoded dictionary of a well-formed message is one of them (`Decoded.reencode`) — the step behind
  `C19_reencode_identity` and the reversibility of the IPM conversion tools (C19).
-/
namespace Cardutil.Iso

open Cardutil Cardutil.Py Cardutil.Digits

/-- two messages the encoder cannot tell apart: the same elements are present and each encodes to
    the same bytes -/
def sameEnc (env : Env) (cfg : Config) (d m : Dict) (bits : List Nat) : Prop :=
  ∀ bit ∈ bits,
    ((presentVal d bit).isSome = (presentVal m bit).isSome) ∧
    ∀ x v, presentVal d bit = some x → presentVal m bit = some v →
      ∀ f, cfg.get bit = some f → encodeField env f x = encodeField env f v

theorem encodeBits_congr (env : Env) (cfg : Config) (d m : Dict) (bits : List Nat) (h : sameEnc env cfg d m bits) :
    encodeBits env cfg d bits = encodeBits env cfg m bits := by
  rw [encodeBits_eq, encodeBits_eq, show emitted d bits = emitted m bits from List.filter_congr fun b hb => (h b hb).1]
  congr 1
  refine Outcome.mapO_congr fun b hb => ?_
  obtain ⟨hs, henc⟩ := h b (List.mem_filter.mp hb).1
  unfold encodeElem
  cases hd : presentVal d b <;> cases hm : presentVal m b <;> simp only [hd, hm, Option.isSome, Bool.false_eq_true, Bool.true_eq_false] at hs
  · rfl
  · cases hc : cfg.get b with
    | none => rfl
    | some f => exact henc _ _ hd hm f hc

theorem encodeCore_congr (env : Env) (cfg : Config) (hexBitmap : Bool) (d m : Dict)
    (hmti : Dict.get d .mti = Dict.get m .mti) (h : sameEnc env cfg d m allBits) :
    encodeCore env cfg hexBitmap d = encodeCore env cfg hexBitmap m := by
  unfold encodeCore encodeMti
  have := encodeBits_congr env cfg d m allBits h
  simp only [allBits] at this
  rw [this, hmti]

/-- without PAN masking the decoded value encodes like the original: it IS the original value, except that a
    number / date-time supplied as text comes back typed -/
theorem wf_reencode {env : Env} {bit : Nat} {f : FieldCfg} {v exp : Val} {sub : Dict}
    (hw : WFField env bit f v exp sub) (hnp : f.proc ≠ .pan ∧ f.proc ≠ .panPrefix) :
    encodeField env f exp = encodeField env f v ∧ present exp = true := by
  cases hw with
  | text t bs sub hproc hty henc hne hfix hvar hsub =>
    rw [transform_of_no_pan hnp.1 hnp.2]
    exact ⟨rfl, present_str.mpr hne⟩
  | int n => exact ⟨rfl, rfl⟩
  | intText t n hproc hty hfix hw hne hint hn =>
    exact ⟨by simp only [encodeField, pyTypeToString, hty, hint], rfl⟩
  | dateText t d bs hproc hty hfix hne hparse =>
    exact ⟨by simp only [encodeField, pyTypeToString, hty, hparse], rfl⟩
  | date d bs => exact ⟨rfl, rfl⟩
  | icc b sub hproc hty hne => exact ⟨rfl, present_bytes.mpr hne⟩

/-- the expected decoded value of a well-formed element does not depend on the codec: two
    environments with the same character classes and date parser expect the same value -/
theorem wf_exp_det {envA envB : Env} (hcl : envA.classes = envB.classes) (hpd : envA.parseDate = envB.parseDate)
    {bit : Nat} {f : FieldCfg} {v expA expB : Val} {subA subB : Dict}
    (ha : WFField envA bit f v expA subA) (hb : WFField envB bit f v expB subB) : expA = expB := by
  rw [wf_exp ha, wf_exp hb]
  unfold expOf
  rw [hcl, hpd]

/-- a dictionary `d` whose elements are, bit for bit, values that encode like those of `m` (and
    which has no other data elements) is indistinguishable from `m` for the encoder -/
theorem sameEnc_of_elements (env : Env) (cfg : Config) (m d : Dict)
    (hel : ∀ bit ∈ allBits, ∀ v, Dict.get m (.de bit) = some v → present v = true →
      ∃ f exp, cfg.get bit = some f ∧ Dict.get d (.de bit) = some exp ∧ present exp = true ∧
        encodeField env f exp = encodeField env f v)
    (hkeys : ∀ kv ∈ d, kv.1 = .mti ∨
        (∃ bit v, kv.1 = .de bit ∧ Dict.get m (.de bit) = some v ∧ present v = true) ∨
        kv.1.isDerived = true) :
    sameEnc env cfg d m allBits := by
  intro bit hb
  cases hpm : presentVal m bit with
  | some v =>
    obtain ⟨hm, hp⟩ := presentVal_eq_some.mp hpm
    obtain ⟨f, exp, hcfg, hget, hpe, hre⟩ := hel bit hb v hm hp
    have hpd := presentVal_eq_some.mpr ⟨hget, hpe⟩
    refine ⟨by rw [hpd]; rfl, fun x v' hx hv' f' hf' => ?_⟩
    cases hpd.symm.trans hx
    cases hv'
    cases hcfg.symm.trans hf'
    exact hre
  | none =>
    -- `d` has no data element that `m` does not have
    cases hpd : presentVal d bit with
    | none => exact ⟨rfl, fun x v' hx => nomatch hx⟩
    | some x =>
      rcases hkeys _ (Dict.mem_of_get (presentVal_eq_some.mp hpd).1) with h | ⟨bit', v', hk, hv', hp'⟩ | h
      · cases h
      · cases hk
        cases hpm.symm.trans (presentVal_eq_some.mpr ⟨hv', hp'⟩)
      · cases h

/-- the encoder of `envY` cannot tell what was decoded under `envX` from `m` -/
theorem Decoded.reencode {envX envY : Env} {cfg : Config} {m d : Dict} (hd : Decoded envX cfg m d)
    (hcl : envX.classes = envY.classes) (hpd : envX.parseDate = envY.parseDate)
    (hnopan : ∀ bit f, cfg.get bit = some f → f.proc ≠ .pan ∧ f.proc ≠ .panPrefix)
    (hwfY : ElemsWF envY cfg m allBits) (hexBitmap : Bool) :
    encodeCore envY cfg hexBitmap d = encodeCore envY cfg hexBitmap m := by
  apply encodeCore_congr _ _ _ _ _ hd.mti
  apply sameEnc_of_elements envY cfg m d _ hd.keys_derived
  intro bit hb v hm hp
  obtain ⟨f, expX, subX, hcfg, hwX, hget⟩ := hd.de bit hb v hm hp
  obtain ⟨f', expY, subY, hcfg', hwY⟩ := hwfY bit hb v hm hp
  cases hcfg.symm.trans hcfg'
  obtain ⟨hre, hpe⟩ := wf_reencode hwY (hnopan bit f hcfg)
  cases wf_exp_det hcl hpd hwX hwY
  exact ⟨f, expX, hcfg, hget, hpe, hre⟩

end Cardutil.Iso
