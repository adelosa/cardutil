import Cardutil.Model.PinBlock
import Cardutil.Lemmas.Hex
/-
  Lemmas for the PIN block models (C13) and PVV / key combination (C14).
-/
namespace Cardutil.Pin

open Cardutil Cardutil.Digits

/-- ISO 9564-1 format 0, first operand: control 0, length, PIN digits, F fill -/
def p1Nibbles (pin : Text) : List Nat :=
  [0, pin.length] ++ (pin.map (· - 48) ++ List.replicate (14 - pin.length) 15)

/-- second operand: 0000 then the 12 rightmost PAN digits excluding the check digit -/
def p2Nibbles (pan : Text) : List Nat := [0, 0, 0, 0] ++ (rightmost12 pan).map (· - 48)

/-- format 4 clear PIN field: control 4, length, PIN digits, A fill -/
def f4Nibbles (pin : Text) : List Nat :=
  [4, pin.length] ++ (pin.map (· - 48) ++ List.replicate (14 - pin.length) 10)

/-- the 16-nibble clear PIN field of both formats: control nibble, length, PIN digits, fill -/
def clearField (c f : Nat) (pin : Text) : List Nat :=
  [c, pin.length] ++ (pin.map (· - 48) ++ List.replicate (14 - pin.length) f)

theorem length_clearField (c f : Nat) {pin : Text} (h : pin.length ≤ 14) : (clearField c f pin).length = 16 := by
  simp [clearField]; omega

theorem clearField_lt16 {c f : Nat} (hc : c < 16) (hf : f < 16) {pin : Text} (hp : AllDigits pin) (hl : pin.length < 16) :
    ∀ n ∈ clearField c f pin, n < 16 :=
  List.forall_mem_append.mpr ⟨List.forall_mem_cons.mpr ⟨hc, List.forall_mem_singleton.mpr hl⟩,
    List.forall_mem_append.mpr ⟨digits_lt16 pin hp, List.forall_mem_replicate.mpr (.inr hf)⟩⟩

/-- the justified text is the field written in hex -/
theorem parse_clearField {c f : Nat} (hc : c < 16) (hf : f < 16) {pin : Text} (hp : AllDigits pin) (hl : pin.length ≤ 14) :
    parseHexText (ljust 16 (hexChar f) ([hexChar c] ++ lenField pin ++ pin)) = some (clearField c f pin) := by
  have hl16 : pin.length < 16 := Nat.lt_of_le_of_lt hl (by decide)
  have hlen : lenField pin = [hexChar pin.length] := by simp [lenField, hexMin_small hl16]
  have : ljust 16 (hexChar f) ([hexChar c] ++ lenField pin ++ pin) = (clearField c f pin).map hexChar := by
    simp [ljust, hlen, clearField, digits_hexChar pin hp]
  rw [this]
  exact parseHexText_hexChars _ (clearField_lt16 hc hf hp hl16)

/-! `p1Nibbles pin` is `clearField 0 15 pin` and `f4Nibbles pin` is `clearField 4 10 pin`, by unfolding. -/

theorem length_p1 {pin : Text} (h : pin.length ≤ 14) : (p1Nibbles pin).length = 16 := length_clearField 0 15 h

theorem length_f4 {pin : Text} (h : pin.length ≤ 14) : (f4Nibbles pin).length = 16 := length_clearField 4 10 h

theorem length_rightmost12 {pan : Text} (h : 13 ≤ pan.length) : (rightmost12 pan).length = 12 := by
  -- with `pan.length = 13 + k`: `(13 + k - 1) - (13 + k - 13) = (k + 12) - k`
  obtain ⟨k, hk⟩ := Nat.exists_eq_add_of_le h
  rw [rightmost12, List.length_drop, List.length_take_of_le (Nat.sub_le _ _), hk, Nat.add_sub_cancel_left,
    Nat.add_comm 13 k, Nat.add_sub_assoc (by decide), Nat.add_sub_cancel_left]

theorem length_p2 {pan : Text} (h : 13 ≤ pan.length) : (p2Nibbles pan).length = 16 := by
  simp [p2Nibbles, length_rightmost12 h]

theorem p1_lt16 {pin : Text} (hp : AllDigits pin) (hl : pin.length < 16) : ∀ n ∈ p1Nibbles pin, n < 16 :=
  clearField_lt16 (c := 0) (f := 15) (by decide) (by decide) hp hl

theorem f4_lt16 {pin : Text} (hp : AllDigits pin) (hl : pin.length < 16) : ∀ n ∈ f4Nibbles pin, n < 16 :=
  clearField_lt16 (c := 4) (f := 10) (by decide) (by decide) hp hl

theorem p2_lt16 {pan : Text} (hp : AllDigits pan) : ∀ n ∈ p2Nibbles pan, n < 16 :=
  List.forall_mem_append.mpr ⟨by decide, digits_lt16 _ (hp.slice _ _)⟩

theorem parse_p1 {pin : Text} (hp : AllDigits pin) (hl : pin.length ≤ 14) :
    parseHexText (ljust 16 102 ([48] ++ lenField pin ++ pin)) = some (p1Nibbles pin) :=
  parse_clearField (c := 0) (f := 15) (by decide) (by decide) hp hl

theorem parse_f4 {pin : Text} (hp : AllDigits pin) (hl : pin.length ≤ 14) :
    parseHexText (ljust 16 97 ([52] ++ lenField pin ++ pin)) = some (f4Nibbles pin) :=
  parse_clearField (c := 4) (f := 10) (by decide) (by decide) hp hl

theorem parse_p2 {pan : Text} (hp : AllDigits pan) :
    parseHexText ([48, 48, 48, 48] ++ rightmost12 pan) = some (p2Nibbles pan) := by
  have h0 : parseHexText [48, 48, 48, 48] = some [0, 0, 0, 0] := rfl
  exact parseHexText_append h0 (parseHexText_digits _ (hp.slice _ _))

theorem filter_split_length (p : Nat → Bool) (l : List Nat) :
    (l.filter p).length + (l.filter (fun x => !p x)).length = l.length := by
  rw [← List.length_append]
  exact (List.filter_append_perm p l).length_eq

/-- the second scan changes nothing once the first has found four digits, so it may always be made -/
theorem decimalise_eq_take (ct : List Nat) :
    decimalise ct = ((ct.filter fun n : Nat => decide (n < 10)).map (fun n : Nat => 48 + n) ++
      (ct.filter fun n : Nat => decide (10 ≤ n)).map fun n : Nat => 48 + (n - 10)).take 4 := by
  have hmap : (ct.filter fun n : Nat => decide (n < 10)).map hexChar = (ct.filter fun n : Nat => decide (n < 10)).map (fun n : Nat => 48 + n) :=
    List.map_congr_left fun n hn => if_pos (of_decide_eq_true (List.mem_filter.mp hn).2)
  rw [decimalise, hmap]
  split
  · rfl
  · rw [List.append_nil, List.take_append_of_le_length (Nat.le_of_not_lt ‹_›)]

theorem combineVal_cons (p : Nat) (ps : List Nat) : combineVal (p :: ps) = p ^^^ combineVal ps := by
  unfold combineVal
  rw [List.foldl_cons, Nat.xor_comm 0 p]
  exact List.foldl_assoc

theorem combineVal_singleton (p : Nat) : combineVal [p] = p := by
  simp [combineVal]

theorem combineVal_perm {a b : List Nat} (h : a.Perm b) : combineVal a = combineVal b :=
  h.foldl_eq' (fun x _ y _ z => by rw [Nat.xor_assoc, Nat.xor_comm x y, Nat.xor_assoc]) 0

theorem combineVal_lt {n : Nat} (ps : List Nat) (h : ∀ p ∈ ps, p < 2 ^ n) : combineVal ps < 2 ^ n := by
  induction ps with
  | nil => simp [combineVal]; exact Nat.pow_pos (by decide)
  | cons p ps ih =>
    rw [combineVal_cons]
    exact Nat.xor_lt_two_pow (h p (by simp)) (ih (fun q hq => h q (by simp [hq])))

/-- the invariant of the combination loop: the running XOR fits the running width -/
theorem foldl_xor_lt : ∀ (parts : List Text) (vals : List Nat) (w v : Nat), Outcome.mapO intHex parts = .ok vals →
    v < 16 ^ w → vals.foldl (· ^^^ ·) v < 16 ^ parts.foldl (fun w p => max w p.length) w
  | [], _, _, _, h, hv => by cases h; exact hv
  | p :: ps, _, w, v, h, hv => by
    obtain ⟨x, xs, hx, hxs, rfl⟩ := Outcome.mapO_cons_eq_ok.mp h
    exact foldl_xor_lt ps xs _ _ hxs (xor_lt_pow16 hv (intHex_lt hx))

/-- so `combine` never falls back to the minimal form of `fmtHexW` -/
theorem combine_eq_toDigits (parts : List Text) :
    combine parts = (Outcome.mapO intHex parts).bind (fun vals =>
      .ok ((toDigits 16 (combineWidth parts) (combineVal vals)).map hexChar)) := by
  unfold combine
  cases h : Outcome.mapO intHex parts with
  | ok vals => exact congrArg (fun d => Outcome.ok (d.map hexChar)) (fmtHexW_of_lt (foldl_xor_lt parts vals 32 0 h (by decide)))
  | _ => rfl

theorem foldl_max_same {L : Nat} : ∀ (parts : List Text) (w : Nat), (∀ p ∈ parts, p.length = L) →
    parts.foldl (fun w p => max w p.length) w = if parts = [] then w else max w L
  | [], _, _ => rfl
  | p :: ps, w, h => by
    rw [List.foldl_cons, foldl_max_same ps _ (fun q hq => h q (List.mem_cons_of_mem _ hq)), h p List.mem_cons_self,
      if_neg (List.cons_ne_nil p ps)]
    split
    · rfl
    · rw [Nat.max_assoc, Nat.max_self]

end Cardutil.Pin
