import Cardutil.Model.Param
/-
  Characteristic lemmas of the parameter reader's model (`Model/Param.lean`), and the one fact about `Py.slice` that
  the column positions of the two row formats rest on.
-/
namespace Cardutil.Py

theorem slice_append_right {α} (h body : List α) (a b : Nat) (ha : h.length ≤ a) :
    slice (h ++ body) a b = slice body (a - h.length) (b - h.length) := by
  obtain ⟨a', rfl⟩ := Nat.exists_eq_add_of_le ha
  unfold slice
  rw [List.drop_take, List.drop_take, ← List.drop_drop, List.drop_left' rfl, Nat.add_sub_cancel_left]
  congr 1; omega

end Cardutil.Py

namespace Cardutil.Param

open Cardutil Cardutil.Py

theorem decodeSlice_eq_ok {c : Codec} {r : Bytes} {a b : Nat} {t : Text} :
    decodeSlice c r a b = .ok t ↔ c.decode (Py.slice r a b) = some t := by
  fun_cases decodeSlice c r a b <;> simp [*]

theorem decodeSlice_cases (c : Codec) (r : Bytes) (a b : Nat) :
    (∃ t, decodeSlice c r a b = .ok t) ∨ decodeSlice c r a b = .escape .unicodeError := by
  fun_cases decodeSlice c r a b
  · exact .inl ⟨_, rfl⟩
  · exact .inr rfl

theorem mapO_decode_cases (c : Codec) (r : Bytes) (off : Nat) (cols : List (Nat × Nat)) :
    (∃ vs, Outcome.mapO (fun (se : Nat × Nat) => decodeSlice c r (se.1 - off) (se.2 - off)) cols = .ok vs) ∨
    Outcome.mapO (fun (se : Nat × Nat) => decodeSlice c r (se.1 - off) (se.2 - off)) cols = .escape .unicodeError := by
  induction cols with
  | nil => exact .inl ⟨[], rfl⟩
  | cons se cols ih =>
    rw [Outcome.mapO]
    rcases decodeSlice_cases c r (se.1 - off) (se.2 - off) with ⟨t, ht⟩ | ht <;> rw [ht]
    · rcases ih with ⟨vs, hvs⟩ | hvs <;> rw [hvs]
      · exact .inl ⟨t :: vs, rfl⟩
      · exact .inr rfl
    · exact .inr rfl

/-- the model's simultaneous `match` is a chain of binds, every failure being the same UnicodeError -/
theorem rowOf_eq_bind (c : Codec) (cols : List (Nat × Nat)) (table : Text) (expanded : Bool) (ix : Index) (r : Bytes) :
    rowOf c cols table expanded ix r =
      (decodeSlice c r (if expanded then 11 else 8) (if expanded then 19 else 11)).bind fun key =>
      (decodeSlice c r 0 (if expanded then 10 else 7)).bind fun eff =>
      (decodeSlice c r (if expanded then 10 else 7) (if expanded then 11 else 8)).bind fun code =>
      if (if expanded then some key else ix.lookup key) == some table then
        (Outcome.mapO (fun (se : Nat × Nat) => decodeSlice c r (se.1 - (if expanded then 0 else 8))
          (se.2 - (if expanded then 0 else 8))) cols).bind fun vals => .ok (some ⟨table, eff, code, vals⟩)
      else .ok none := by
  have e : (if expanded then decodeSlice c r 11 19 else decodeSlice c r 8 11) =
      decodeSlice c r (if expanded then 11 else 8) (if expanded then 19 else 11) := by cases expanded <;> rfl
  have h1 := decodeSlice_cases c r (if expanded then 11 else 8) (if expanded then 19 else 11)
  have h2 := decodeSlice_cases c r 0 (if expanded then 10 else 7)
  have h3 := decodeSlice_cases c r (if expanded then 10 else 7) (if expanded then 11 else 8)
  have h4 := mapO_decode_cases c r (if expanded then 0 else 8) cols
  unfold rowOf
  rw [e]
  -- the path on which every slice decodes goes on; each failure leaves a goal that `rfl` closes at the end
  rcases h1 with ⟨_, h1⟩ | h1 <;> rw [h1]
  rcases h2 with ⟨_, h2⟩ | h2 <;> rw [h2]
  rcases h3 with ⟨_, h3⟩ | h3 <;> rw [h3]
  rcases h4 with ⟨_, h4⟩ | h4 <;> simp only [h4, Outcome.bind]
  all_goals rfl

theorem rowOf_eq_some {c : Codec} {cols : List (Nat × Nat)} {table : Text} {expanded : Bool} {ix : Index} {r : Bytes}
    {row : Row} (h : rowOf c cols table expanded ix r = .ok (some row)) :
    ∃ key, decodeSlice c r (if expanded then 11 else 8) (if expanded then 19 else 11) = .ok key ∧
      (if expanded then some key else ix.lookup key) = some table ∧
      row.tableId = table ∧
      decodeSlice c r 0 (if expanded then 10 else 7) = .ok row.effTs ∧
      decodeSlice c r (if expanded then 10 else 7) (if expanded then 11 else 8) = .ok row.code ∧
      Outcome.mapO (fun (se : Nat × Nat) => decodeSlice c r (se.1 - (if expanded then 0 else 8))
        (se.2 - (if expanded then 0 else 8))) cols = .ok row.cols := by
  rw [rowOf_eq_bind] at h
  obtain ⟨key, hk, h⟩ := Outcome.bind_eq_ok.mp h
  obtain ⟨eff, he, h⟩ := Outcome.bind_eq_ok.mp h
  obtain ⟨code, hc, h⟩ := Outcome.bind_eq_ok.mp h
  by_cases ht : (if expanded then some key else ix.lookup key) = some table
  · rw [if_pos (beq_iff_eq.mpr ht)] at h
    obtain ⟨vals, hv, h⟩ := Outcome.bind_eq_ok.mp h
    cases h
    exact ⟨key, hk, ht, rfl, he, hc, hv⟩
  · rw [if_neg (ht ∘ beq_iff_eq.mp)] at h
    cases h

theorem rowOf_congr (c : Codec) (cols : List (Nat × Nat)) (table : Text) (expanded : Bool) (ix ix' : Index)
    (h : ∀ k, ix.lookup k = ix'.lookup k) (r : Bytes) :
    rowOf c cols table expanded ix r = rowOf c cols table expanded ix' r := by
  unfold rowOf
  simp only [h]

theorem rowsOf_congr (c : Codec) (cols : List (Nat × Nat)) (table : Text) (expanded : Bool) (ix ix' : Index)
    (h : ∀ k, ix.lookup k = ix'.lookup k) (last : PEnd) (recs : List Bytes) :
    rowsOf c cols table expanded ix last recs = rowsOf c cols table expanded ix' last recs := by
  induction recs with
  | nil => rfl
  | cons r rs ih => rw [rowsOf, rowsOf, rowOf_congr c cols table expanded ix ix' h r, ih]

theorem rowsOf_append (c : Codec) (cols : List (Nat × Nat)) (table : Text) (expanded : Bool) (ix : Index)
    (last : PEnd) (f : Bytes → Option Row) (a b : List Bytes)
    (h : ∀ r ∈ a, rowOf c cols table expanded ix r = .ok (f r)) :
    rowsOf c cols table expanded ix last (a ++ b) =
      (a.filterMap f ++ (rowsOf c cols table expanded ix last b).1, (rowsOf c cols table expanded ix last b).2) := by
  induction a with
  | nil => rfl
  | cons r rs ih =>
    simp only [List.cons_append, rowsOf, h r (by simp), ih fun x hx => h x (by simp [hx]), List.filterMap_cons]
    cases f r <;> rfl

theorem rowsOf_mem {c : Codec} {cols : List (Nat × Nat)} {table : Text} {expanded : Bool} {ix : Index} {last : PEnd}
    {recs : List Bytes} {row : Row} (h : row ∈ (rowsOf c cols table expanded ix last recs).1) :
    ∃ r ∈ recs, rowOf c cols table expanded ix r = .ok (some row) := by
  fun_induction rowsOf c cols table expanded ix last recs with
  | case1 | case3 | case4 | case5 => cases h
  | case2 r rs x hr rest ih =>
    replace ih := fun hm => (ih hm).imp fun _ h' => And.imp_left (List.mem_cons_of_mem r) h'
    cases x with
    | none => exact ih h
    | some row' =>
      rcases List.mem_cons.mp h with rfl | hm
      · exact ⟨r, List.mem_cons_self, hr⟩
      · exact ih hm

theorem scanIndex_no_trailer (c : Codec) (recs : List Bytes)
    (h : ∀ r ∈ recs, ∃ t, c.decode r = some t ∧ t.take trailerPrefix.length ≠ trailerPrefix) (ix : Index) :
    scanIndex c recs ix = .ok none := by
  induction recs generalizing ix with
  | nil => rfl
  | cons r rs ih =>
    obtain ⟨t, ht, hn⟩ := h r List.mem_cons_self
    rw [scanIndex, ht]
    simp only [if_neg (hn ∘ beq_iff_eq.mp)]
    exact ih (fun x hx => h x (List.mem_cons_of_mem _ hx)) _

theorem read_no_trailer (c : Codec) (cols : List (Nat × Nat)) (hc : cols ≠ []) (table : Text) (expanded : Bool)
    (recs : List Bytes) (last : PEnd) (h : scanIndex c recs [] = .ok none) :
    read c (some cols) table expanded recs last = ([], match last with | .escape k => .escape k | _ => .dataError) := by
  cases cols with
  | nil => exact absurd rfl hc
  | cons _ _ =>
    simp only [read, List.isEmpty_cons, Bool.false_eq_true, if_false, h]
    cases last <;> rfl

end Cardutil.Param
