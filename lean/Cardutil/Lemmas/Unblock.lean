import Cardutil.Model.Vbs
import Cardutil.Lemmas.Block
/-
  Lemmas for `Unblock1014.read` (C05): the unblocker refines `take`/`drop` on the payload stream.
-/
namespace Cardutil.Unblock

open Cardutil Cardutil.Block

/-- the payload bytes not yet handed to the caller -/
def remaining (P : Nat) (s : St) : Bytes := s.buf ++ payloads P s.rest

theorem refill_spec (P : Nat) (need : Option Nat) (rest buf : Bytes) :
    (refill P need rest buf).2 ++ payloads P (refill P need rest buf).1 = buf ++ payloads P rest ∧
    (wants need (refill P need rest buf).2 = false ∨ (refill P need rest buf).1 = []) ∧
    (refill P need rest buf).1.length ≤ rest.length := by
  induction rest, buf using refill.induct (P := P) (need := need) with
  | case1 rest buf hc ih =>
    rw [refill, if_pos hc]
    refine ⟨?_, ih.2.1, Nat.le_trans ih.2.2 (by rw [List.length_drop]; exact Nat.sub_le _ _)⟩
    rw [ih.1, payloads_eq P rest, List.take_take, Nat.min_eq_left (Nat.le_add_right P 2), List.append_assoc]
  | case2 rest buf hc =>
    rw [refill, if_neg hc]
    refine ⟨rfl, ?_, Nat.le_refl _⟩
    by_cases hw : wants need buf = true
    · exact Or.inr (List.eq_nil_of_length_eq_zero (Decidable.not_not.mp fun h0 => hc ⟨hw, h0⟩))
    · exact Or.inl (by simpa using hw)

theorem read_rest_le (P : Nat) (s : St) (need : Option Nat) : (read P s need).2.rest.length ≤ s.rest.length := by
  unfold read
  cases need <;> exact (refill_spec _ _ _ _).2.2

theorem read_spec (P : Nat) (s : St) (need : Option Nat) :
    (read P s need).1 = need.elim (remaining P s) (remaining P s).take ∧
    remaining P (read P s need).2 = need.elim [] (remaining P s).drop := by
  obtain ⟨hinv, hpost, -⟩ := refill_spec P need s.rest s.buf
  unfold read remaining
  rw [← hinv]
  rcases hpost with h | h
  · cases need with
    | none => simp [wants] at h
    | some n =>
      have hl : n < (refill P (some n) s.rest s.buf).2.length := by simp [wants] at h; omega
      exact ⟨by simp [List.take_append_of_le_length (Nat.le_of_lt hl)],
        by simp [List.drop_append_of_le_length (Nat.le_of_lt hl)]⟩
  · cases need <;> simp [h, payloads_nil]

/-- the abstract meaning of a history of reads on a byte stream -/
def specReads : Bytes → List (Option Nat) → List Bytes
  | _, [] => []
  | R, some n :: ns => R.take n :: specReads (R.drop n) ns
  | R, none :: ns => R :: specReads [] ns

theorem runReads_spec (P : Nat) (s : St) (ns : List (Option Nat)) :
    runReads P s ns = specReads (remaining P s) ns := by
  induction ns generalizing s with
  | nil => rfl
  | cons n ns ih =>
    have h := read_spec P s n
    rw [runReads, ih, h.1, h.2]
    cases n <;> rfl

end Cardutil.Unblock
