import Cardutil.Lemmas.IsoField
/-
  The element loops: `encodeBits` is a comprehension over the present elements (`encodeBits_eq`); what it writes,
  `decodeBits` reads back element by element.
-/
namespace Cardutil.Iso

open Cardutil Cardutil.Py

/-- the value the encoder writes for element `bit`: the one stored under `DE<bit>`, if it passes the truthiness test -/
def presentVal (m : Dict) (bit : Nat) : Option Val :=
  match Dict.get m (.de bit) with
  | some v => if present v then some v else none
  | none => none

theorem presentVal_eq_some {m : Dict} {bit : Nat} {v : Val} :
    presentVal m bit = some v ↔ Dict.get m (.de bit) = some v ∧ present v = true := by
  have : presentVal m bit = (Dict.get m (.de bit)).filter present := by
    unfold presentVal; cases Dict.get m (.de bit) <;> rfl
  rw [this, Option.filter_eq_some_iff]

/-- the elements among `bits` that the encoder writes, in the order of `bits` -/
def emitted (m : Dict) (bits : List Nat) : List Nat := bits.filter (fun b => (presentVal m b).isSome)

/-- the bytes of one emitted element; the last branch is never reached where `bit` comes from `emitted` -/
def encodeElem (env : Env) (cfg : Config) (m : Dict) (bit : Nat) : Outcome Bytes :=
  match presentVal m bit, cfg.get bit with
  | some v, some f => encodeField env f v
  | some _, none => .escape .keyError
  | none, _ => .ok []

theorem mem_emitted {m : Dict} {bits : List Nat} {b : Nat} :
    b ∈ emitted m bits ↔ b ∈ bits ∧ ∃ v, Dict.get m (.de b) = some v ∧ present v = true := by
  simp only [emitted, List.mem_filter, Option.isSome_iff_exists, presentVal_eq_some]

theorem encodeElem_eq_ok {env : Env} {cfg : Config} {m : Dict} {bit : Nat} {v : Val} (hv : Dict.get m (.de bit) = some v)
    (hp : present v = true) {bs : Bytes} :
    encodeElem env cfg m bit = .ok bs ↔ ∃ f, cfg.get bit = some f ∧ encodeField env f v = .ok bs := by
  rw [encodeElem, presentVal_eq_some.mpr ⟨hv, hp⟩]
  cases cfg.get bit <;> simp

theorem emitted_cons (m : Dict) (bit : Nat) (bits : List Nat) :
    emitted m (bit :: bits) = if (presentVal m bit).isSome then bit :: emitted m bits else emitted m bits :=
  List.filter_cons

theorem encodeBits_eq (env : Env) (cfg : Config) (m : Dict) (bits : List Nat) :
    encodeBits env cfg m bits =
      (Outcome.mapO (encodeElem env cfg m) (emitted m bits)).bind (fun parts => .ok (emitted m bits, parts.flatten)) := by
  -- each branch of the loop is one step of the `filter` and, where it emits, one step of `mapO`
  fun_induction encodeBits env cfg m bits with
  | case1 => rfl
  | case2 bit bits v hv hp hc => simp [emitted_cons, presentVal, hv, hp, Outcome.mapO, encodeElem, hc, Outcome.bind]
  | case3 bit bits v hv hp f hc ih =>
    simp only [emitted_cons, presentVal, hv, hp, if_true, Option.isSome_some, Outcome.mapO, encodeElem, hc, ih]
    cases encodeField env f v with
    | ok b => cases Outcome.mapO _ _ <;> rfl
    | _ => rfl
  | case4 bit bits v hv hp ih => simp [emitted_cons, presentVal, hv, hp, ih]
  | case5 bit bits hv ih => simp [emitted_cons, presentVal, hv, ih]

/-- one decoded element: its bit, the value returned for `DE<bit>`, the derived entries -/
structure Item where
  bit : Nat
  exp : Val
  sub : Dict

def Item.dict (i : Item) : Dict := Dict.update [(Key.de i.bit, i.exp)] i.sub

/-- the decoder's accumulation over the elements, in order -/
def applyItems (acc : Dict) (items : List Item) : Dict := items.foldl (fun a i => Dict.update a i.dict) acc

/-- `it` is what a present, configured, well-formed element of `m` decodes to -/
def ItemFor (env : Env) (cfg : Config) (m : Dict) (it : Item) : Prop :=
  ∃ v f, Dict.get m (.de it.bit) = some v ∧ present v = true ∧ cfg.get it.bit = some f ∧
    WFField env it.bit f v it.exp it.sub

/-- every present element among `bits` is configured and well formed -/
def ElemsWF (env : Env) (cfg : Config) (m : Dict) (bits : List Nat) : Prop :=
  ∀ bit ∈ bits, ∀ v, Dict.get m (.de bit) = some v → present v = true →
    ∃ f exp sub, cfg.get bit = some f ∧ WFField env bit f v exp sub

/-- The decoder's pointer is absolute, so the statement carries what precedes the elements (`pre`): the step for
    `bit :: bits` uses the induction hypothesis at `pre ++ bs`. -/
theorem emitted_roundtrip {env : Env} (h : EnvOK env) (cfg : Config) (m : Dict) (bits : List Nat)
    (hwf : ElemsWF env cfg m bits) :
    ∃ (parts : List Bytes) (items : List Item),
      Outcome.mapO (encodeElem env cfg m) (emitted m bits) = .ok parts ∧ items.map (·.bit) = emitted m bits ∧
      (∀ it ∈ items, ItemFor env cfg m it) ∧
      ∀ (pre rest : Bytes) (acc : Dict),
        decodeBits env cfg (emitted m bits) (pre ++ (parts.flatten ++ rest)) acc pre.length =
          .ok (applyItems acc items, pre.length + parts.flatten.length) := by
  induction bits with
  | nil => exact ⟨[], [], rfl, rfl, by simp, fun pre rest acc => by simp [emitted, decodeBits, applyItems]⟩
  | cons bit bits ih =>
    have ih := ih fun b hb => hwf b (List.mem_cons_of_mem _ hb)
    rw [emitted_cons]
    cases hpv : presentVal m bit with
    | none => exact ih
    | some v =>
      simp only [Option.isSome_some, ↓reduceIte]
      obtain ⟨parts, items, henc, hmap, hitems, hdec⟩ := ih
      obtain ⟨hget, hp⟩ := presentVal_eq_some.mp hpv
      obtain ⟨f, exp, sub, hcfg, hw⟩ := hwf bit List.mem_cons_self v hget hp
      obtain ⟨bs, hbs, hfield⟩ := field_roundtrip h hw
      have helem : encodeElem env cfg m bit = .ok bs := (encodeElem_eq_ok hget hp).mpr ⟨f, hcfg, hbs⟩
      refine ⟨bs :: parts, ⟨bit, exp, sub⟩ :: items, by simp only [Outcome.mapO, helem, henc, Outcome.bind],
        by simp [hmap], List.forall_mem_cons.mpr ⟨⟨v, f, hget, hp, hcfg, hw⟩, hitems⟩, fun pre rest acc => ?_⟩
      have := hdec (pre ++ bs) rest (Dict.update acc (Dict.update [(Key.de bit, exp)] sub))
      simp only [List.append_assoc, List.length_append] at this
      simp only [decodeBits, hcfg, List.flatten_cons, List.append_assoc]
      rw [List.drop_left' rfl, hfield]
      simp only [Outcome.bind, this, List.length_append]
      simp [applyItems, Item.dict, Nat.add_assoc]

end Cardutil.Iso
