/-
  Insertion into a sorted list, once: any function with the two equations of an insertion step — walk past `y` while
  `past y x`, else put `x` here — gives a permutation and keeps every relation `R` that `past` decides and that is
  transitive.  The model's and the run-time library's insertion sorts are instances (their equations hold by `rfl`).
-/
namespace Cardutil

structure IsInsert {α} (past : α → α → Bool) (ins : α → List α → List α) : Prop where
  nil : ∀ x, ins x [] = [x]
  cons : ∀ x y ys, ins x (y :: ys) = if past y x then y :: ins x ys else x :: y :: ys

namespace IsInsert

variable {α} {past : α → α → Bool} {ins : α → List α → List α} (h : IsInsert past ins)
include h

theorem perm (x : α) (l : List α) : (ins x l).Perm (x :: l) := by
  induction l with
  | nil => rw [h.nil]
  | cons y ys ih =>
    rw [h.cons]
    split
    · exact (ih.cons y).trans (.swap x y ys)
    · exact .refl _

theorem sort_perm (l : List α) : (l.foldr ins []).Perm l := by
  induction l with
  | nil => exact .refl _
  | cons x xs ih => exact (h.perm x _).trans (ih.cons x)

/-- `R` is what the list is sorted by: `past y x` puts `y` before `x`, its failure puts `x` before `y` -/
theorem pairwise {R : α → α → Prop} (hp : ∀ {x y}, past y x = true → R y x) (hn : ∀ {x y}, past y x = false → R x y)
    (ht : ∀ {x y z}, R x y → R y z → R x z) (x : α) {l : List α} (hl : l.Pairwise R) : (ins x l).Pairwise R := by
  induction l with
  | nil => rw [h.nil]; exact List.pairwise_singleton R x
  | cons y ys ih =>
    have ⟨hy, hys⟩ := List.pairwise_cons.mp hl
    rw [h.cons]
    split
    · rename_i hyx
      refine List.pairwise_cons.mpr ⟨fun z hz => ?_, ih hys⟩
      rcases List.mem_cons.mp ((h.perm x ys).mem_iff.mp hz) with rfl | hz
      · exact hp hyx
      · exact hy z hz
    · rename_i hyx
      have hxy := hn (Bool.not_eq_true _ ▸ hyx)
      refine List.pairwise_cons.mpr ⟨fun z hz => ?_, hl⟩
      rcases List.mem_cons.mp hz with rfl | hz
      · exact hxy
      · exact ht hxy (hy z hz)

theorem sort_pairwise {R : α → α → Prop} (hp : ∀ {x y}, past y x = true → R y x) (hn : ∀ {x y}, past y x = false → R x y)
    (ht : ∀ {x y z}, R x y → R y z → R x z) (l : List α) : (l.foldr ins []).Pairwise R := by
  induction l with
  | nil => exact .nil
  | cons x xs ih => exact h.pairwise hp hn ht x ih

end IsInsert

end Cardutil
