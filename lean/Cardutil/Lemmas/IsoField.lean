import Cardutil.Model.Iso8583
import Cardutil.Lemmas.PyInt
/-
  One element: what the encoder's and the decoder's frame (width / length prefix) do around the content
  bytes, the content of each kind of well-formed value, and from the two the field-level round trip
  `decodeField (encodeField v ++ rest)`.
-/
namespace Cardutil.Iso

open Cardutil Cardutil.Py Cardutil.Digits

/-- what the round trip needs from the environment: measured `int()` classes are sane, the codec
    decodes what it encodes, decimal digits are encodable, and the DE43 splitter only produces
    DE43_* keys -/
structure EnvOK (env : Env) : Prop where
  sane : env.classes.Sane
  lawful : env.codec.Lawful
  digits : ∀ d, d < 10 → ∃ b, env.codec.enc (48 + d) = some b
  de43keys : ∀ bit t kv, kv ∈ env.de43 bit t → ∃ n, kv.1 = Key.de43 n

theorem encode_digits {env : Env} (h : EnvOK env) (ds : List Nat) (hd : ∀ d ∈ ds, d < 10) :
    ∃ bs, env.codec.encode (digitText ds) = some bs :=
  let ⟨bs, hbs, _⟩ := mapM_total (f := env.codec.enc) (l := digitText ds) fun _ hc =>
    let ⟨d, hm, e⟩ := List.mem_map.mp hc; e ▸ h.digits d (hd d hm)
  ⟨bs, hbs⟩

theorem encodeText_eq_ok {env : Env} {t : Text} {bs : Bytes} : encodeText env t = .ok bs ↔ env.codec.encode t = some bs := by
  unfold encodeText; cases env.codec.encode t <;> simp

theorem decode_append {env : Env} {a b : Bytes} {x y : Text} (ha : env.codec.decode a = some x)
    (hb : env.codec.decode b = some y) : env.codec.decode (a ++ b) = some (x ++ y) := by
  unfold Codec.decode at *; rw [List.mapM_append, ha, hb]; rfl

/-- `n` written with `w` decimal digits is encodable to `w` bytes, which decode and parse back to `n`: length
    prefixes, numeric content and PDS sub-element lengths alike -/
theorem prefix_roundtrip {env : Env} (h : EnvOK env) (w n : Nat) (hw : 0 < w) (hn : n < 10 ^ w) :
    ∃ p, env.codec.encode (fmtInt w (Int.ofNat n)) = some p ∧ p.length = w ∧
      env.codec.decode p = some (fmtNat w n) ∧ pyInt env.classes (fmtNat w n) = some (Int.ofNat n) := by
  obtain ⟨p, hp⟩ := encode_digits h (toDigits 10 w n) (toDigits_lt (by decide) w n)
  rw [← fmtNat_eq hw hn] at hp
  exact ⟨p, hp, (Codec.encode_length hp).trans (fmtNat_length w n hw hn), Codec.decode_encode h.lawful hp,
    pyInt_fmtNat h.sane w n hw hn⟩

/-- `WFField env bit f v exp sub`: `v` is a well-formed value for element `bit` configured as
    `f` (the property's "fits its configured field"); decoding returns `exp` for the element and
    the derived entries `sub`.  No constructor has `f.pytype = .decimal`: the round trip says nothing about
    decimal elements. -/
inductive WFField (env : Env) (bit : Nat) (f : FieldCfg) : Val → Val → Dict → Prop
  /-- text: encodable, non-empty; exactly the width (fixed) or countable by the prefix (variable);
      for a PDS carrier the text is PDS-structured (the walk succeeds) -/
  | text (t : Text) (bs : Bytes) (sub : Dict)
      (hproc : f.proc ≠ .icc) (hty : f.pytype = .str)
      (henc : env.codec.encode t = some bs) (hne : t ≠ [])
      (hfix : f.prefixLen = 0 → t.length = f.length)
      (hvar : 0 < f.prefixLen → t.length < 10 ^ f.prefixLen)
      (hsub : derived env bit f (.str (transform f t)) = .ok sub) :
      WFField env bit f (.str t) (.str (transform f t)) sub
  /-- number: a fixed field of `w ≥ 1` digits holds `0 ≤ n < 10^w` (zero included) -/
  | int (n : Nat)
      (hproc : f.proc = .none) (hty : f.pytype = .int) (hfix : f.prefixLen = 0) (hw : 0 < f.length)
      (hn : n < 10 ^ f.length) :
      WFField env bit f (.int (Int.ofNat n)) (.int (Int.ofNat n)) []
  /-- number given as text (the CSV tools): `int(t)` succeeds with a value that fits the field -/
  | intText (t : Text) (n : Nat)
      (hproc : f.proc = .none) (hty : f.pytype = .int) (hfix : f.prefixLen = 0) (hw : 0 < f.length)
      (hne : t ≠ []) (hint : pyInt env.classes t = some (Int.ofNat n)) (hn : n < 10 ^ f.length) :
      WFField env bit f (.str t) (.int (Int.ofNat n)) []
  /-- date-time given as text (the CSV tools): the date parser accepts it; then as `date` -/
  | dateText (t : Text) (d : DateTime) (bs : Bytes)
      (hproc : f.proc = .none) (hty : f.pytype = .datetime) (hfix : f.prefixLen = 0)
      (hne : t ≠ []) (hparse : env.parseDate t = some d)
      (hlen : (strftime f.dateFmt d).length = f.length)
      (henc : env.codec.encode (strftime f.dateFmt d) = some bs)
      (hback : strptime env.classes f.dateFmt (strftime f.dateFmt d) = some d) :
      WFField env bit f (.str t) (.dt d) []
  /-- date-time: its rendering has the field's width, is encodable, and parses back -/
  | date (d : DateTime) (bs : Bytes)
      (hproc : f.proc = .none) (hty : f.pytype = .datetime) (hfix : f.prefixLen = 0)
      (hlen : (strftime f.dateFmt d).length = f.length) (hne : strftime f.dateFmt d ≠ [])
      (henc : env.codec.encode (strftime f.dateFmt d) = some bs)
      (hback : strptime env.classes f.dateFmt (strftime f.dateFmt d) = some d) :
      WFField env bit f (.dt d) (.dt d) []
  /-- ICC: binary TLV data, untouched, of a length the prefix can count; complete TLVs -/
  | icc (b : Bytes) (sub : Dict)
      (hproc : f.proc = .icc) (hty : f.pytype = .str) (hne : b ≠ [])
      (hfix : f.prefixLen = 0 → b.length = f.length)
      (hvar : 0 < f.prefixLen → b.length < 10 ^ f.prefixLen)
      (hsub : iccToDict b = .ok sub) :
      WFField env bit f (.bytes b) (.bytes b) sub

/-- the value the decoder returns for a well-formed element, as a function of the value supplied -/
def expOf (env : Env) (f : FieldCfg) : Val → Val
  | .str t =>
    match f.pytype with
    | .str => .str (transform f t)
    | .int => (pyInt env.classes t).elim (.str t) .int
    | .datetime => (env.parseDate t).elim (.str t) .dt
    | .decimal => .str t
  | v => v

theorem wf_exp {env : Env} {bit : Nat} {f : FieldCfg} {v exp : Val} {sub : Dict} (hw : WFField env bit f v exp sub) :
    exp = expOf env f v := by
  cases hw with
  | text t bs sub hproc hty => simp only [expOf, hty]
  | intText t n hproc hty hfix hw hne hint => simp only [expOf, hty, hint, Option.elim]
  | dateText t d bs hproc hty hfix hne hparse => simp only [expOf, hty, hparse, Option.elim]
  | _ => rfl

theorem prefixLen_cases (f : FieldCfg) : f.prefixLen = 0 ∨ f.prefixLen = 2 ∨ f.prefixLen = 3 := by
  unfold FieldCfg.prefixLen
  cases f.ftype <;> simp

theorem fieldLength_var {env : Env} (h : EnvOK env) (f : FieldCfg) (hls : 0 < f.prefixLen) (n : Nat)
    (hn : n < 10 ^ f.prefixLen) (p : Bytes) (tail : Bytes)
    (hp : env.codec.decode p = some (fmtNat f.prefixLen n)) (hl : p.length = f.prefixLen)
    (hint : pyInt env.classes (fmtNat f.prefixLen n) = some (Int.ofNat n)) :
    fieldLength env f (p ++ tail) = .ok n := by
  unfold fieldLength
  rw [if_neg (by omega), List.take_left' hl, hp]
  simp only [hint]

theorem fieldLength_fixed (env : Env) (f : FieldCfg) (hls : f.prefixLen = 0) (data : Bytes) :
    fieldLength env f data = .ok f.length := by
  unfold fieldLength; rw [if_pos hls]

theorem fieldLength_eq_ok {env : Env} {f : FieldCfg} {data : Bytes} {n : Nat} (h : fieldLength env f data = .ok n) :
    (f.prefixLen = 0 → n = f.length) ∧
    (0 < f.prefixLen → ∃ t, env.codec.decode (data.take f.prefixLen) = some t ∧ pyInt env.classes t = some (Int.ofNat n)) := by
  revert h
  fun_cases fieldLength env f data with
  | case1 h0 => rintro ⟨⟩; exact ⟨fun _ => rfl, fun hp => by omega⟩
  | case2 | case3 | case4 => exact nofun
  | case5 h0 t ht k hk => rintro ⟨⟩; exact ⟨fun h0' => absurd h0' h0, fun _ => ⟨t, ht, hk⟩⟩

theorem transform_of_no_pan {f : FieldCfg} (h1 : f.proc ≠ .pan) (h2 : f.proc ≠ .panPrefix) (t : Text) :
    transform f t = t := by
  fun_cases transform f t with
  | case1 h => exact absurd h h1
  | case2 h => exact absurd h h2
  | case3 => rfl

theorem stringToPyType_str (env : Env) (f : FieldCfg) (t : Text) (h : f.pytype = .str) :
    stringToPyType env f t = .ok (.str t) := by
  simp [stringToPyType, h]

theorem present_str {t : Text} : present (.str t) = true ↔ t ≠ [] := by cases t <;> simp [present]

theorem present_bytes {b : Bytes} : present (.bytes b) = true ↔ b ≠ [] := by cases b <;> simp [present]

theorem wf_present {env : Env} {bit : Nat} {f : FieldCfg} {v exp : Val} {sub : Dict}
    (hw : WFField env bit f v exp sub) : present v = true := by
  cases hw with
  | text t bs sub hproc hty henc hne => exact present_str.mpr hne
  | int n => rfl
  | intText t n hproc hty hfix hw hne => exact present_str.mpr hne
  | dateText t d bs hproc hty hfix hne => exact present_str.mpr hne
  | date d bs => rfl
  | icc b sub hproc hty hne => exact present_bytes.mpr hne

theorem fitLeft_of_length {w : Nat} {t : Text} (h : t.length = w) : fitLeft w t = t := by
  unfold fitLeft; rw [List.take_of_length_le (by omega), h]; simp

section frame
variable {env : Env} {f : FieldCfg} {v : Val}

theorem pyTypeToString_str (env : Env) (v : Val) (hty : f.pytype = .str) : pyTypeToString env f v = .ok v := by
  simp only [pyTypeToString, hty]

theorem encodeField_str_fixed {t : Text} (hs : pyTypeToString env f v = .ok (.str t)) (h0 : f.prefixLen = 0) :
    encodeField env f v = encodeText env (fitLeft f.length t) := by
  simp only [encodeField, hs, Outcome.bind, h0, if_true]

theorem encodeField_str_var {t : Text} (hs : pyTypeToString env f v = .ok (.str t)) (hpos : 0 < f.prefixLen) :
    encodeField env f v =
      if 10 ^ f.prefixLen ≤ t.length then .dataError
      else (encodeText env (fmtInt f.prefixLen (Int.ofNat t.length))).bind (fun p =>
        (encodeText env t).bind (fun body => .ok (p ++ body))) := by
  simp only [encodeField, hs, Outcome.bind, if_neg (Nat.ne_of_gt hpos)]

theorem encodeField_bytes_fixed {b : Bytes} (hs : pyTypeToString env f v = .ok (.bytes b)) (h0 : f.prefixLen = 0) :
    encodeField env f v = .ok (b.take f.length) := by
  simp only [encodeField, hs, Outcome.bind, h0, if_true]

theorem encodeField_bytes_var {b : Bytes} (hs : pyTypeToString env f v = .ok (.bytes b)) (hpos : 0 < f.prefixLen) :
    encodeField env f v =
      if 10 ^ f.prefixLen ≤ b.length then .dataError
      else (encodeText env (fmtInt f.prefixLen (Int.ofNat b.length))).bind (fun p => .ok (p ++ b)) := by
  simp only [encodeField, hs, Outcome.bind, if_neg (Nat.ne_of_gt hpos)]

end frame

/-- a rendered value with its content bytes: text in the codec, or bytes as they are -/
inductive Body (env : Env) : Val → Bytes → Prop
  | str (t : Text) (body : Bytes) (h : env.codec.encode t = some body) : Body env (.str t) body
  | bytes (b : Bytes) : Body env (.bytes b) b

/-- the frame alone, whatever decodes the content -/
theorem frame_spec {env : Env} (h : EnvOK env) {f : FieldCfg} {v s : Val} {body : Bytes}
    (hs : pyTypeToString env f v = .ok s) (hb : Body env s body)
    (hfix : f.prefixLen = 0 → body.length = f.length) (hvar : 0 < f.prefixLen → body.length < 10 ^ f.prefixLen) :
    ∃ bs, encodeField env f v = .ok bs ∧ bs.length = body.length + f.prefixLen ∧ ∀ rest,
      fieldLength env f (bs ++ rest) = .ok body.length ∧ ((bs ++ rest).drop f.prefixLen).take body.length = body := by
  rcases Nat.eq_zero_or_pos f.prefixLen with h0 | hpos
  · have hw := hfix h0
    refine ⟨body, ?_, by rw [h0]; rfl, fun rest => ⟨hw ▸ fieldLength_fixed env f h0 _, by rw [h0]; exact List.take_left' rfl⟩⟩
    cases hb with
    | str t body ht =>
      rw [encodeField_str_fixed hs h0, fitLeft_of_length (by rw [← Codec.encode_length ht, hw])]
      exact encodeText_eq_ok.mpr ht
    | bytes b => rw [encodeField_bytes_fixed hs h0, ← hw, List.take_length]
  · have hlt := hvar hpos
    obtain ⟨p, hpe, hpl, hpd, hpi⟩ := prefix_roundtrip h f.prefixLen body.length hpos hlt
    refine ⟨p ++ body, ?_, by rw [List.length_append, hpl, Nat.add_comm], fun rest => ?_⟩
    · cases hb with
      | str t body ht =>
        have hl := Codec.encode_length ht
        rw [encodeField_str_var hs hpos, ← hl, if_neg (Nat.not_le.mpr hlt), encodeText_eq_ok.mpr hpe, encodeText_eq_ok.mpr ht]
        rfl
      | bytes b =>
        rw [encodeField_bytes_var hs hpos, if_neg (Nat.not_le.mpr hlt), encodeText_eq_ok.mpr hpe]
        rfl
    · rw [List.append_assoc]
      exact ⟨fieldLength_var h f hpos _ hlt p _ hpd hpl hpi, by rw [List.drop_left' hpl]; exact List.take_left' rfl⟩

theorem frame_roundtrip {env : Env} (h : EnvOK env) (bit : Nat) {f : FieldCfg} {v s : Val} {body : Bytes}
    (hs : pyTypeToString env f v = .ok s) (hb : Body env s body)
    (hfix : f.prefixLen = 0 → body.length = f.length) (hvar : 0 < f.prefixLen → body.length < 10 ^ f.prefixLen)
    (d : Dict) (hc : (if f.proc == .icc then decodeIcc bit f body else decodeTextField env bit f body) = .ok d) :
    ∃ bs, encodeField env f v = .ok bs ∧ ∀ rest, decodeField env bit f (bs ++ rest) = .ok (d, bs.length) := by
  obtain ⟨bs, henc, hl, hd⟩ := frame_spec h hs hb hfix hvar
  refine ⟨bs, henc, fun rest => ?_⟩
  unfold decodeField
  rw [(hd rest).1]
  simp only [Outcome.bind]
  rw [(hd rest).2, hc, hl]

theorem text_roundtrip {env : Env} (h : EnvOK env) (bit : Nat) {f : FieldCfg} {v x : Val} {s : Text} {body : Bytes}
    {sub : Dict}
    (hproc : f.proc ≠ .icc) (hs : pyTypeToString env f v = .ok (.str s)) (henc : env.codec.encode s = some body)
    (hfix : f.prefixLen = 0 → s.length = f.length) (hvar : 0 < f.prefixLen → s.length < 10 ^ f.prefixLen)
    (hx : stringToPyType env f (transform f s) = .ok x) (hsub : derived env bit f x = .ok sub) :
    ∃ bs, encodeField env f v = .ok bs ∧ ∀ rest,
      decodeField env bit f (bs ++ rest) = .ok (Dict.update [(Key.de bit, x)] sub, bs.length) := by
  have hl := Codec.encode_length henc
  refine frame_roundtrip h bit hs (.str s body henc) (hl ▸ hfix) (hl ▸ hvar) _ ?_
  rw [if_neg (by simpa using hproc), decodeTextField, Codec.decode_encode h.lawful henc]
  simp only [hx, Outcome.catchAs, Outcome.bind, hsub]

theorem field_roundtrip {env : Env} (h : EnvOK env) {bit : Nat} {f : FieldCfg} {v exp : Val} {sub : Dict}
    (hw : WFField env bit f v exp sub) :
    ∃ bs, encodeField env f v = .ok bs ∧ ∀ rest,
      decodeField env bit f (bs ++ rest) = .ok (Dict.update [(Key.de bit, exp)] sub, bs.length) := by
  -- a number of `w` digits, however supplied
  have num : ∀ n, f.proc = .none → f.pytype = .int → f.prefixLen = 0 → 0 < f.length → n < 10 ^ f.length →
      pyTypeToString env f v = .ok (.str (fmtInt f.length (Int.ofNat n))) →
      ∃ bs, encodeField env f v = .ok bs ∧ ∀ rest,
        decodeField env bit f (bs ++ rest) = .ok (Dict.update [(Key.de bit, .int (Int.ofNat n))] [], bs.length) := by
    intro n hproc hty hfix hw hn hs
    obtain ⟨body, hbody, hlen, -, hint⟩ := prefix_roundtrip h f.length n hw hn
    exact text_roundtrip h bit (by simp [hproc]) hs hbody (fun _ => (Codec.encode_length hbody).symm.trans hlen)
      (fun hp => absurd hfix (Nat.ne_of_gt hp))
      (by simp only [transform, hproc, stringToPyType, hty]
          rw [show fmtInt f.length (Int.ofNat n) = fmtNat f.length n from rfl, hint])
      (by simp only [derived, hproc])
  cases hw with
  | text t bs sub hproc hty henc hne hfix hvar hsub =>
    exact text_roundtrip h bit hproc (pyTypeToString_str env _ hty) henc hfix hvar (stringToPyType_str env f _ hty) hsub
  | int n hproc hty hfix hw hn => exact num n hproc hty hfix hw hn (by simp only [pyTypeToString, hty])
  | intText t n hproc hty hfix hw hne hint hn =>
    exact num n hproc hty hfix hw hn (by simp only [pyTypeToString, hty, hint])
  | dateText t d bs hproc hty hfix hne hparse hlen henc hback =>
    exact text_roundtrip h bit (by simp [hproc]) (by simp only [pyTypeToString, hty, hparse]) henc (fun _ => hlen)
      (fun hp => absurd hfix (Nat.ne_of_gt hp))
      (by simp only [transform, hproc, stringToPyType, hty, hback]) (by simp only [derived, hproc])
  | date d bs hproc hty hfix hlen hne henc hback =>
    exact text_roundtrip h bit (by simp [hproc]) (by simp only [pyTypeToString, hty]) henc (fun _ => hlen)
      (fun hp => absurd hfix (Nat.ne_of_gt hp))
      (by simp only [transform, hproc, stringToPyType, hty, hback]) (by simp only [derived, hproc])
  | icc b sub hproc hty hne hfix hvar hsub =>
    refine frame_roundtrip h bit (s := .bytes b) (pyTypeToString_str env _ hty) (.bytes b) hfix hvar _ ?_
    rw [if_pos (by simp [hproc])]
    simp only [decodeIcc, hty, hsub, Outcome.catchAs, Outcome.bind]

end Cardutil.Iso
