import Cardutil.Model.Iso8583
import Cardutil.Lemmas.BitArray
import Cardutil.Lemmas.Hex
/-
  Bitmap lemmas: hexlify / unhexlify, the 128 presence flags and the bitmap bytes (flags <-> bytes: Lemmas/BitArray.lean).
-/
namespace Cardutil.Iso

open Cardutil Cardutil.Digits

-- `hexVal?` and `hexDigitLower` have the bodies of `Pin.hexNibble?` and `Pin.hexChar` (Py/Hex.lean), so the lemma about
-- those applies as it stands
theorem hexVal_hexDigitLower (n : Nat) (h : n < 16) : hexVal? (hexDigitLower n) = some n := Pin.hexNibble_hexChar h

theorem hexlify_cons (x : Nat) (xs : Bytes) :
    hexlify (x :: xs) = hexDigitLower (x / 16 % 16) :: hexDigitLower (x % 16) :: hexlify xs := rfl

/-- `binascii.unhexlify(binascii.hexlify(b)) = b` -/
theorem unhexlify_hexlify (b : Bytes) (h : ∀ x ∈ b, x < 256) : unhexlify? (hexlify b) = some b := by
  induction b with
  | nil => rfl
  | cons x xs ih =>
    have hx := h x (by simp)
    have h16 : ∀ n, n % 16 < 16 := fun n => Nat.mod_lt n (by decide)
    rw [hexlify_cons, unhexlify?, hexVal_hexDigitLower _ (h16 _), hexVal_hexDigitLower _ (h16 _),
      ih fun y hy => h y (by simp [hy])]
    exact congrArg (fun y => some (y :: xs)) (by rw [Nat.mod_eq_of_lt (Nat.div_lt_of_lt_mul hx), Nat.div_add_mod])

theorem hexlify_length (b : Bytes) : (hexlify b).length = 2 * b.length := by
  induction b with
  | nil => rfl
  | cons x xs ih => rw [hexlify_cons, List.length_cons, List.length_cons, ih, List.length_cons, Nat.mul_succ]

/-- `hexlify` writes the digits 0-9 and a-f only -/
theorem hexlify_lower (b : Bytes) : ∀ c ∈ hexlify b, (48 ≤ c ∧ c ≤ 57) ∨ (97 ≤ c ∧ c ≤ 102) := by
  have hd : ∀ n, n < 16 → (48 ≤ hexDigitLower n ∧ hexDigitLower n ≤ 57) ∨ (97 ≤ hexDigitLower n ∧ hexDigitLower n ≤ 102) := by
    decide
  intro c hc
  obtain ⟨x, _, hx⟩ := List.mem_flatMap.mp hc
  simp only [List.mem_cons, List.mem_nil_iff, or_false] at hx
  rcases hx with rfl | rfl <;> exact hd _ (Nat.mod_lt _ (by decide))

/-- the 128 flags the encoder writes: bit 1 always, bit n iff element n is present -/
def flagsOf (bits : List Nat) : List Bool := (List.range 128).map (fun i => i == 0 || bits.contains (i + 1))

theorem flagsOf_length (bits : List Nat) : (flagsOf bits).length = 128 := by simp [flagsOf]

theorem bitmapOf_eq (bits : List Nat) : bitmapOf bits = bytesOfBits (flagsOf bits) := rfl

theorem bitmapOf_length (bits : List Nat) : (bitmapOf bits).length = 16 :=
  bytesOfBits_length 16 _ (flagsOf_length bits)

theorem bitmapOf_lt (bits : List Nat) : ∀ b ∈ bitmapOf bits, b < 256 :=
  bytesOfBits_lt 16 _ (flagsOf_length bits)

theorem flagsOf_getElem? (bits : List Nat) {i : Nat} (hi : i < 128) :
    (flagsOf bits)[i]? = some (i == 0 || bits.contains (i + 1)) := by
  rw [flagsOf, List.getElem?_map, List.getElem?_range hi]; rfl

/-- elements 2..128 in ascending order -/
def allBits : List Nat := (List.range 127).map (· + 2)

/-- the flagged elements among 2..128, flag `n - 1` standing for element `n` -/
theorem presentBits_eq (bitmap : Bytes) :
    presentBits bitmap = allBits.filter (fun b => (bitsOfBytes bitmap).getD (b - 1) false) := by
  rw [presentBits, allBits, List.filter_map, ← List.filterMap_eq_map', List.filterMap_filter]
  rfl

/-- decoding the bitmap the encoder wrote gives back exactly the elements 2..128 that were
    flagged, in ascending order -/
theorem presentBits_bitmapOf (bits : List Nat) :
    presentBits (bitmapOf bits) = allBits.filter (fun b => bits.contains b) := by
  rw [presentBits_eq, bitmapOf_eq, bitsOfBytes_bytesOfBits 16 _ (flagsOf_length bits)]
  refine List.filter_congr fun b hb => ?_
  obtain ⟨i, hi, rfl⟩ := List.mem_map.mp hb
  have hi := List.mem_range.mp hi
  rw [List.getD_eq_getElem?_getD, flagsOf_getElem? bits (by omega)]
  simp

theorem allBits_nodup : allBits.Nodup :=
  List.Pairwise.map (S := (· ≠ ·)) (· + 2) (fun a b hab h => hab (by omega)) List.nodup_range

end Cardutil.Iso
