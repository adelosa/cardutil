import Cardutil.Model.Vbs
import Cardutil.Lemmas.Unblock
import Cardutil.Py.Digits
/-
  VBS framing: one step of the record reader, whole files, the writer's layout.  `readAll` is
  `ipmReadAll` with the decoder that accepts everything; a blocked file is read as its payload
  stream (`recordStream`); a whole-file statement is a prefix of good records, then one step.
-/
namespace Cardutil

open Cardutil.Block

theorem be32_length (n : Nat) : (be32 n).length = 4 := rfl

/-- 2^32 under a name, so that `simp` and `omega` meet the literal only where a proof asks for it -/
def lim32 : Nat := 4294967296

theorem be32_eq_toDigits (n : Nat) : be32 n = Digits.toDigits 256 4 n := by
  simp only [Digits.toDigits, Nat.div_div_eq_div_mul]; rfl

theorem be32dec_eq_fromDigits (a b c d : Nat) : be32dec [a, b, c, d] = Digits.fromDigits 256 [a, b, c, d] := by
  simp +arith only [be32dec, Digits.fromDigits, List.foldl_cons, List.foldl_nil]

theorem be32dec_be32 {n : Nat} (h : n < lim32) : be32dec (be32 n) = n := by
  rw [be32, be32dec_eq_fromDigits, ← be32, be32_eq_toDigits, Digits.fromDigits_toDigits 4 n h]

theorem be32_zero : be32 0 = [0, 0, 0, 0] := rfl

/-- the VBS byte stream of a record list (without the terminator) -/
def vbsBytes (recs : List Bytes) : Bytes := (recs.map (fun r => be32 r.length ++ r)).flatten

theorem vbsBytes_nil : vbsBytes [] = [] := rfl
theorem vbsBytes_cons (r : Bytes) (rs : List Bytes) :
    vbsBytes (r :: rs) = be32 r.length ++ (r ++ vbsBytes rs) := by
  simp [vbsBytes, List.append_assoc]

theorem vbsBytes_append (a b : List Bytes) : vbsBytes (a ++ b) = vbsBytes a ++ vbsBytes b := by
  simp [vbsBytes]

theorem length_le_vbsBytes (recs : List Bytes) : recs.length ≤ (vbsBytes recs).length := by
  induction recs with
  | nil => simp
  | cons r rs ih => simp [vbsBytes_cons, be32_length]; omega

/-- a last `j ≤ N` with `f j ≤ n`: the next value, if there is one, is beyond `n` -/
theorem exists_last_le (f : Nat → Nat) {n : Nat} (h0 : f 0 ≤ n) (N : Nat) :
    ∃ j, j ≤ N ∧ f j ≤ n ∧ (j < N → n < f (j + 1)) := by
  induction N with
  | zero => exact ⟨0, Nat.le_refl _, h0, fun h => absurd h (Nat.lt_irrefl _)⟩
  | succ N ih =>
    by_cases hN : f (N + 1) ≤ n
    · exact ⟨N + 1, Nat.le_refl _, hN, fun h => absurd h (Nat.lt_irrefl _)⟩
    · obtain ⟨j, hj, h1, h2⟩ := ih
      refine ⟨j, Nat.le_succ_of_le hj, h1, fun _ => ?_⟩
      rcases Nat.lt_or_eq_of_le hj with h | rfl
      · exact h2 h
      · omega

namespace Vbs

theorem next_done {σ} {S : Src σ} {ml : Nat} {st : RState σ} {e : End} (h : next S ml st = .done e) :
    e = .eof ∨ ∃ ctx, e = .dataError st.recno ctx := by
  revert h
  fun_cases next S ml st with
  | case1 | case3 => exact fun h => .inl (Step.done.inj h).symm
  | case2 | case4 => exact fun h => .inr ⟨_, (Step.done.inj h).symm⟩
  | case5 => exact fun h => nomatch h

theorem next_eq_record {σ} {S : Src σ} {ml : Nat} {st : RState σ} {r : Bytes} {st' : RState σ}
    (h : next S ml st = .record r st') :
    ∃ n, (S.read st.src 4).1.length = 4 ∧ n ≠ 0 ∧ (S.read (S.read st.src 4).2 n).1.length = n ∧
      r = (S.read (S.read st.src 4).2 n).1 ∧
      st' = ⟨(S.read (S.read st.src 4).2 n).2, st.recno + 1, some ((S.read st.src 4).1 ++ r)⟩ := by
  revert h
  fun_cases next S ml st with
  | case5 _ h1 _ _ h3 _ h4 =>
    intro h
    cases h
    exact ⟨_, Decidable.not_not.mp h1, h3, Decidable.not_not.mp h4, rfl, rfl⟩
  | _ => exact fun h => nomatch h

theorem next_consumes {ml : Nat} {d : Bytes} {k : Nat} {l : Option Bytes} {r : Bytes} {st' : RState Bytes}
    (h : next plainSrc ml ⟨d, k, l⟩ = .record r st') : st'.src.length < d.length := by
  obtain ⟨n, h4, _, _, _, rfl⟩ := next_eq_record h
  simp only [plainSrc, List.length_take, List.length_drop] at h4 ⊢
  omega

theorem next_plain (ml : Nat) (d : Bytes) (k : Nat) (l : Option Bytes) :
    next plainSrc ml ⟨d, k, l⟩ =
      if (d.take 4).length ≠ 4 then .done .eof
      else if ml < be32dec (d.take 4) then .done (.dataError k (d.take 4))
      else if be32dec (d.take 4) = 0 then .done .eof
      else if ((d.drop 4).take (be32dec (d.take 4))).length ≠ be32dec (d.take 4) then
        .done (.dataError k (d.take 4 ++ (d.drop 4).take (be32dec (d.take 4))))
      else .record ((d.drop 4).take (be32dec (d.take 4)))
        ⟨(d.drop 4).drop (be32dec (d.take 4)), k + 1,
          some (d.take 4 ++ (d.drop 4).take (be32dec (d.take 4)))⟩ := rfl

theorem next_short {ml : Nat} {d : Bytes} {k : Nat} {l : Option Bytes} (h : d.length < 4) :
    next plainSrc ml ⟨d, k, l⟩ = .done .eof := by
  rw [next_plain, if_pos]
  simp only [List.length_take]; omega

theorem next_be32 {ml N : Nat} (h32 : N < lim32) (rest : Bytes) (k : Nat) (l : Option Bytes) :
    next plainSrc ml ⟨be32 N ++ rest, k, l⟩ =
      if ml < N then .done (.dataError k (be32 N))
      else if N = 0 then .done .eof
      else if (rest.take N).length ≠ N then .done (.dataError k (be32 N ++ rest.take N))
      else .record (rest.take N) ⟨rest.drop N, k + 1, some (be32 N ++ rest.take N)⟩ := by
  rw [next_plain, List.take_left' (be32_length N), List.drop_left' (be32_length N), be32dec_be32 h32,
    if_neg (by simp [be32_length])]

theorem next_zero {ml : Nat} {rest : Bytes} {k : Nat} {l : Option Bytes} :
    next plainSrc ml ⟨be32 0 ++ rest, k, l⟩ = .done .eof := by
  rw [next_be32 (by decide), if_neg (Nat.not_lt_zero ml), if_pos rfl]

theorem next_record {ml : Nat} {r rest : Bytes} {k : Nat} {l : Option Bytes}
    (h0 : 0 < r.length) (hml : r.length ≤ ml) (h32 : ml < lim32) :
    next plainSrc ml ⟨be32 r.length ++ (r ++ rest), k, l⟩ =
      .record r ⟨rest, k + 1, some (be32 r.length ++ r)⟩ := by
  rw [next_be32 (Nat.lt_of_le_of_lt hml h32), List.take_left' rfl, List.drop_left' rfl, if_neg (Nat.not_lt.mpr hml),
    if_neg (Nat.ne_of_gt h0), if_neg (by simp)]

theorem next_truncated {ml : Nat} {r : Bytes} {n k : Nat} {l : Option Bytes}
    (hml : r.length ≤ ml) (h32 : ml < lim32) (hn : n < r.length) :
    next plainSrc ml ⟨be32 r.length ++ r.take n, k, l⟩ = .done (.dataError k (be32 r.length ++ r.take n)) := by
  rw [next_be32 (Nat.lt_of_le_of_lt hml h32), List.take_of_length_le (List.length_take_le' n r),
    if_neg (Nat.not_lt.mpr hml), if_neg (Nat.ne_of_gt (Nat.zero_lt_of_lt hn)),
    if_pos (Nat.ne_of_lt (Nat.lt_of_le_of_lt (List.length_take_le n r) hn))]

theorem next_oversized {ml n : Nat} {rest : Bytes} {k : Nat} {l : Option Bytes}
    (hml : ml < n) (h32 : n < lim32) :
    next plainSrc ml ⟨be32 n ++ rest, k, l⟩ = .done (.dataError k (be32 n)) := by
  rw [next_be32 h32, if_pos hml]

/- NOTE: `readAll` is always unfolded with these propositional equations (`rw`), never with
   `simp only [readAll]`: a definitional unfolding makes the kernel evaluate `next` on the concrete
   prefix `be32 r.length ++ …`, which ends in unfolding `Nat.div` on a symbolic numerator. -/
theorem readAll_zero {σ} (S : Src σ) (ml : Nat) (st : RState σ) : readAll S ml 0 st = ([], .fuel) := rfl

theorem readAll_succ {σ} (S : Src σ) (ml fuel : Nat) (st : RState σ) :
    readAll S ml (fuel + 1) st =
      match next S ml st with
      | .done e => ([], e)
      | .record r st' => (r :: (readAll S ml fuel st').1, (readAll S ml fuel st').2) := rfl

theorem ipmReadAll_succ {σ α} (S : Src σ) (ml : Nat) (dec : Bytes → Outcome α) (fuel : Nat) (st : RState σ) :
    ipmReadAll S ml dec (fuel + 1) st =
      match next S ml st with
      | .done e => ([], e)
      | .record r st' =>
        match dec r with
        | .ok d => (d :: (ipmReadAll S ml dec fuel st').1, (ipmReadAll S ml dec fuel st').2)
        | .dataError => ([], .dataError st.recno ((st'.last).getD []))
        | .escape k => ([], .escape k)
        | .diverge => ([], .diverge) := rfl

/-- the message reader is the record reader followed by `mapO dec` -/
theorem ipmReadAll_of_readAll {σ α} {S : Src σ} {ml : Nat} {dec : Bytes → Outcome α} {fuel : Nat} {st : RState σ}
    {recs : List Bytes} {ds : List α} {e : End} (hr : readAll S ml fuel st = (recs, e))
    (hd : Outcome.mapO dec recs = .ok ds) : ipmReadAll S ml dec fuel st = (ds, e) := by
  induction fuel generalizing st recs ds with
  | zero => cases hr; cases hd; rfl
  | succ f ih =>
    rw [readAll_succ] at hr
    rw [ipmReadAll_succ]
    generalize next S ml st = s at hr ⊢
    cases s with
    | done e' => cases hr; cases hd; rfl
    | record r st' =>
      cases hr
      obtain ⟨d, ds', h1, h2, rfl⟩ := Outcome.mapO_cons_eq_ok.mp hd
      simp only [h1, ih rfl h2]

theorem readAll_eq_ipm {σ} (S : Src σ) (ml fuel : Nat) (st : RState σ) :
    readAll S ml fuel st = ipmReadAll S ml .ok fuel st :=
  (ipmReadAll_of_readAll rfl (by simpa using Outcome.mapO_map_ok .ok id id _ fun _ _ => rfl)).symm

def Step.map {σ τ} (f : σ → τ) : Step σ → Step τ
  | .done e => .done e
  | .record r st => .record r ⟨f st.src, st.recno, st.last⟩

/- pushing `Step.map f` through the `if`s and closing by `rfl` is much quicker to check than
   splitting the four conditions -/
theorem next_map {σ τ : Type} {S : Src σ} {T : Src τ} {f : σ → τ}
    (hread : ∀ s n, (S.read s n).1 = (T.read (f s) n).1 ∧ f (S.read s n).2 = (T.read (f s) n).2)
    (ml : Nat) (s : σ) (k : Nat) (l : Option Bytes) :
    (next S ml ⟨s, k, l⟩).map f = next T ml ⟨f s, k, l⟩ := by
  obtain ⟨h1, h2⟩ := hread s 4
  obtain ⟨h3, h4⟩ := hread (S.read s 4).2 (be32dec (S.read s 4).1)
  unfold next
  simp only [← h1, ← h2, ← h3, ← h4, apply_ite (Step.map f)]
  rfl

theorem ipmReadAll_map {σ τ α : Type} {S : Src σ} {T : Src τ} {f : σ → τ}
    (hread : ∀ s n, (S.read s n).1 = (T.read (f s) n).1 ∧ f (S.read s n).2 = (T.read (f s) n).2)
    (ml : Nat) (dec : Bytes → Outcome α) (fuel : Nat) (s : σ) (k : Nat) (l : Option Bytes) :
    ipmReadAll S ml dec fuel ⟨s, k, l⟩ = ipmReadAll T ml dec fuel ⟨f s, k, l⟩ := by
  induction fuel generalizing s k l with
  | zero => rfl
  | succ n ih =>
    rw [ipmReadAll_succ, ipmReadAll_succ, ← next_map hread]
    cases next S ml ⟨s, k, l⟩ with
    | done e => rfl
    | record r st => simp only [Step.map, ih]

theorem ipmReadAll_unblock {α : Type} (P ml : Nat) (dec : Bytes → Outcome α) (fuel : Nat)
    (s : Unblock.St) (k : Nat) (l : Option Bytes) :
    ipmReadAll (unblockSrc P) ml dec fuel ⟨s, k, l⟩ =
      ipmReadAll plainSrc ml dec fuel ⟨Unblock.remaining P s, k, l⟩ :=
  ipmReadAll_map (T := plainSrc) (fun s n => Unblock.read_spec P s (some n)) ml dec fuel s k l

theorem readAll_unblock (P ml fuel : Nat) (s : Unblock.St) (k : Nat) (l : Option Bytes) :
    readAll (unblockSrc P) ml fuel ⟨s, k, l⟩ = readAll plainSrc ml fuel ⟨Unblock.remaining P s, k, l⟩ := by
  rw [readAll_eq_ipm, readAll_eq_ipm, ipmReadAll_unblock]

theorem ipmReadAll_done {σ α} {S : Src σ} {ml : Nat} {dec : Bytes → Outcome α} {fuel : Nat} {st : RState σ}
    {e : End} (hf : 0 < fuel) (h : next S ml st = .done e) : ipmReadAll S ml dec fuel st = ([], e) := by
  obtain ⟨f, rfl⟩ := Nat.exists_eq_succ_of_ne_zero (Nat.ne_of_gt hf)
  rw [ipmReadAll_succ, h]

/-- nothing reads `last_record` before the next step overwrites it -/
theorem ipmReadAll_last {σ α} {S : Src σ} {ml : Nat} {dec : Bytes → Outcome α} (fuel : Nat) (s : σ) (k : Nat)
    (l l' : Option Bytes) : ipmReadAll S ml dec fuel ⟨s, k, l⟩ = ipmReadAll S ml dec fuel ⟨s, k, l'⟩ := by
  cases fuel <;> rfl

theorem ipmReadAll_good {α} {ml : Nat} (h32 : ml < lim32) {dec : Bytes → Outcome α} {val : Bytes → α}
    {good : List Bytes} (h : ∀ r ∈ good, 0 < r.length ∧ r.length ≤ ml ∧ dec r = .ok (val r))
    (rest : Bytes) {fuel : Nat} (hf : good.length ≤ fuel) (k : Nat) (l : Option Bytes) :
    ipmReadAll plainSrc ml dec fuel ⟨vbsBytes good ++ rest, k, l⟩ =
      (ipmReadAll plainSrc ml dec (fuel - good.length) ⟨rest, good.length + k, l⟩).map (good.map val ++ ·) id := by
  induction good generalizing fuel k l with
  | nil => simp [vbsBytes_nil, Prod.map]
  | cons r rs ih =>
    obtain ⟨f, rfl⟩ := Nat.exists_eq_add_one_of_ne_zero (Nat.ne_of_gt (Nat.lt_of_lt_of_le (Nat.succ_pos _) hf))
    obtain ⟨h0, hml, hd⟩ := h r List.mem_cons_self
    rw [ipmReadAll_succ, vbsBytes_cons, List.append_assoc, List.append_assoc, next_record h0 hml h32]
    simp only [hd]
    rw [ih (fun x hx => h x (List.mem_cons_of_mem _ hx)) (Nat.le_of_succ_le_succ hf) (k + 1), ipmReadAll_last _ _ _ _ l,
      List.length_cons, Nat.add_sub_add_right, Nat.add_right_comm]
    rfl

theorem ipmReadAll_good_done {α} {ml : Nat} (h32 : ml < lim32) {dec : Bytes → Outcome α} {val : Bytes → α}
    {good : List Bytes} (h : ∀ r ∈ good, 0 < r.length ∧ r.length ≤ ml ∧ dec r = .ok (val r))
    {rest : Bytes} {fuel : Nat} (hf : good.length < fuel) {k : Nat} {l : Option Bytes} {e : End}
    (he : next plainSrc ml ⟨rest, good.length + k, l⟩ = .done e) :
    ipmReadAll plainSrc ml dec fuel ⟨vbsBytes good ++ rest, k, l⟩ = (good.map val, e) := by
  rw [ipmReadAll_good h32 h rest (Nat.le_of_lt hf), ipmReadAll_done (by omega) he, Prod.map, List.append_nil]
  rfl

theorem ipmReadAll_vbs {α} {ml : Nat} (h32 : ml < lim32) (dec : Bytes → Outcome α) (val : Bytes → α)
    (recs : List Bytes) (tail : Bytes)
    (h : ∀ r ∈ recs, 0 < r.length ∧ r.length ≤ ml ∧ dec r = .ok (val r)) (fuel k : Nat) (l : Option Bytes)
    (hf : recs.length < fuel) :
    ipmReadAll plainSrc ml dec fuel ⟨vbsBytes recs ++ (be32 0 ++ tail), k, l⟩ = (recs.map val, .eof) :=
  ipmReadAll_good_done h32 h hf next_zero

theorem readAll_vbs {ml : Nat} (h32 : ml < lim32) (recs : List Bytes) (tail : Bytes)
    (h : ∀ r ∈ recs, 0 < r.length ∧ r.length ≤ ml) (fuel k : Nat) (l : Option Bytes)
    (hf : recs.length < fuel) :
    readAll plainSrc ml fuel ⟨vbsBytes recs ++ (be32 0 ++ tail), k, l⟩ = (recs, .eof) := by
  rw [readAll_eq_ipm, ipmReadAll_vbs h32 .ok id recs tail (fun r hr => ⟨(h r hr).1, (h r hr).2, rfl⟩) fuel k l hf]
  simp

/-- with `Q := (· ≠ .fuel)`: given more fuel than bytes, a whole-file read never ends in `.fuel` -/
theorem ipmReadAll_plain_end {α} (dec : Bytes → Outcome α) (Q : End → Prop) (heof : Q .eof)
    (herr : ∀ n c, Q (.dataError n c)) (hesc : ∀ r k, dec r = .escape k → Q (.escape k))
    (hdiv : ∀ r, dec r = .diverge → Q .diverge) (ml fuel : Nat) (d : Bytes) (k : Nat) (l : Option Bytes)
    (hf : d.length < fuel) : Q (ipmReadAll plainSrc ml dec fuel ⟨d, k, l⟩).2 := by
  induction fuel generalizing d k l with
  | zero => exact absurd hf (Nat.not_lt_zero _)
  | succ f ih =>
    rw [ipmReadAll_succ]
    cases hn : next plainSrc ml ⟨d, k, l⟩ with
    | done e =>
      rcases next_done hn with rfl | ⟨c, rfl⟩
      · exact heof
      · exact herr _ _
    | record r st' =>
      cases hd : dec r with
      | ok a => simp only [hd]; exact ih _ _ _ (Nat.lt_of_lt_of_le (next_consumes hn) (Nat.le_of_lt_succ hf))
      | dataError => simp only [hd]; exact herr _ _
      | escape e => simp only [hd]; exact hesc r e hd
      | diverge => simp only [hd]; exact hdiv r hd

theorem next_cut {ml N : Nat} (h32 : N < lim32) {rest : Bytes} {m : Nat} (hm : N = 0 ∨ m < 4 + N) {k : Nat}
    {l : Option Bytes} : ∃ e, next plainSrc ml ⟨(be32 N ++ rest).take m, k, l⟩ = .done e := by
  by_cases h4 : m < 4
  · exact ⟨_, next_short (Nat.lt_of_le_of_lt (List.length_take_le _ _) h4)⟩
  · rw [List.take_append, List.take_of_length_le (Nat.le_of_not_lt h4), be32_length, next_be32 h32]
    by_cases h1 : ml < N
    · exact ⟨_, if_pos h1⟩
    · by_cases h0 : N = 0
      · exact ⟨_, by rw [if_neg h1, if_pos h0]⟩
      · have hlt : m - 4 < N := Nat.sub_lt_left_of_lt_add (Nat.le_of_not_lt h4) (hm.resolve_left h0)
        have hle := Nat.le_trans (List.length_take_le' N (rest.take (m - 4))) (List.length_take_le _ _)
        exact ⟨_, by rw [if_neg h1, if_neg h0, if_pos (Nat.ne_of_lt (Nat.lt_of_le_of_lt hle hlt))]⟩

theorem readAll_truncated {ml : Nat} (h32 : ml < lim32) (recs : List Bytes) (tail : Bytes)
    (h : ∀ r ∈ recs, 0 < r.length ∧ r.length ≤ ml) (n fuel k : Nat) (l : Option Bytes)
    (hf : min recs.length n < fuel) :
    ∃ j e, readAll plainSrc ml fuel ⟨(vbsBytes recs ++ (be32 0 ++ tail)).take n, k, l⟩ = (recs.take j, e) ∧
      j ≤ recs.length ∧
      (vbsBytes (recs.take j)).length ≤ n ∧
      (j < recs.length → n < (vbsBytes (recs.take (j + 1))).length) ∧
      (e = .eof ∨ ∃ c, e = .dataError (j + k) c) := by
  -- `j`: the last record boundary at or before the cut; the stream is `j` whole records, then a
  -- step that yields none
  obtain ⟨j, hj, h1, h2⟩ :=
    exists_last_le (fun j => (vbsBytes (recs.take j)).length) (n := n) (Nat.zero_le _) recs.length
  have hlen : (recs.take j).length = j := List.length_take_of_le hj
  obtain ⟨e, he⟩ : ∃ e, next plainSrc ml
      ⟨(vbsBytes (recs.drop j) ++ (be32 0 ++ tail)).take (n - (vbsBytes (recs.take j)).length), j + k, l⟩ = .done e := by
    by_cases hlt : j < recs.length
    · have hr := h _ (List.getElem_mem hlt)
      have := h2 hlt
      rw [List.take_succ_eq_append_getElem hlt, vbsBytes_append, vbsBytes_cons, vbsBytes_nil, List.append_nil,
        List.length_append, List.length_append, be32_length] at this
      rw [List.drop_eq_getElem_cons hlt, vbsBytes_cons, List.append_assoc, List.append_assoc]
      exact next_cut (Nat.lt_of_le_of_lt hr.2 h32) (Or.inr (Nat.sub_lt_left_of_lt_add h1 this))
    · rw [List.drop_of_length_le (Nat.le_of_not_lt hlt), vbsBytes_nil, List.nil_append]
      exact next_cut (by decide) (Or.inl rfl)
  refine ⟨j, e, ?_, hj, h1, h2, next_done he⟩
  have hjn := length_le_vbsBytes (recs.take j)
  have hs : vbsBytes recs = vbsBytes (recs.take j) ++ vbsBytes (recs.drop j) := by
    rw [← vbsBytes_append, List.take_append_drop]
  rw [hs, List.append_assoc, List.take_append, List.take_of_length_le h1, readAll_eq_ipm,
    ipmReadAll_good_done h32 (dec := .ok) (val := id) (good := recs.take j)
      (fun r hr => ⟨(h r (List.mem_of_mem_take hr)).1, (h r (List.mem_of_mem_take hr)).2, rfl⟩)
      (Nat.lt_of_le_of_lt (Nat.le_min.mpr ⟨List.length_take_le' j recs, Nat.le_trans hjn h1⟩) hf) (by rw [hlen]; exact he),
    List.map_id]

end Vbs

namespace Writer

theorem file_write_end (d b : Bytes) :
    File.write ⟨d, d.length⟩ b = ⟨d ++ b, (d ++ b).length⟩ := by
  simp [File.write]

/-- the raw `out_file.write` calls made for a record list: length, data, length, data, … -/
def rawWrites (recs : List Bytes) : List Bytes := (recs.map (fun r => [be32 r.length, r])).flatten

theorem rawWrites_flatten (recs : List Bytes) : (rawWrites recs).flatten = vbsBytes recs := by
  induction recs with
  | nil => rfl
  | cons r rs ih =>
    simp only [rawWrites, List.map_cons, List.flatten_cons] at ih ⊢
    simp [ih, vbsBytes]

/-- what a sequence of raw writes appends to the file, and the blocker state after it -/
def emits (P : Nat) (blocked : Bool) (rem : Nat) (ws : List Bytes) : Bytes × Nat :=
  if blocked then Block.writes P rem ws else (ws.flatten, rem)

theorem foldl_write_eq (P : Nat) (recs : List Bytes) (s : St) :
    recs.foldl (write P) s = (rawWrites recs).foldl (rawWrite P) s := by
  rw [rawWrites, List.foldl_flatten, List.foldl_map]
  rfl

theorem foldl_rawWrite (P : Nat) (blocked : Bool) (ws : List Bytes) (d : Bytes) (rem : Nat) (c : Bool) :
    ws.foldl (rawWrite P) ⟨⟨d, d.length⟩, blocked, rem, c⟩ =
      ⟨⟨d ++ (emits P blocked rem ws).1, (d ++ (emits P blocked rem ws).1).length⟩, blocked,
        (emits P blocked rem ws).2, c⟩ := by
  induction ws generalizing d rem with
  | nil => cases blocked <;> simp [emits, Block.writes]
  | cons w ws ih =>
    cases blocked
    · simp only [List.foldl_cons, rawWrite, Bool.false_eq_true, if_false, file_write_end, ih]
      simp [emits, List.append_assoc]
    · simp only [List.foldl_cons, rawWrite, if_true, file_write_end, ih]
      simp [emits, Block.writes, List.append_assoc]

theorem listToBytes_eq (P : Nat) (blocked : Bool) (recs : List Bytes) :
    listToBytes P blocked recs =
      if blocked then Block.stream P (rawWrites recs ++ [be32 0]) else vbsBytes recs ++ be32 0 := by
  -- the records are raw writes (`foldl_write_eq`), and raw writes at the end of the file append what `emits` says
  -- (`foldl_rawWrite`); `close` then writes `be32 0` and, blocked, finalises: `stream` of all writes by `writes_append`
  have h := foldl_rawWrite P blocked (rawWrites recs) [] P false
  simp only [List.nil_append, List.length_nil] at h
  simp only [listToBytes, run, List.foldl_cons, List.foldl_nil, fin, init, File.empty, foldl_write_eq, h, close,
    Bool.false_eq_true, if_false]
  cases blocked
  · simp [emits, rawWrite, rawWrites_flatten, file_write_end, File.seek0]
  · simp only [emits, rawWrite, if_true, file_write_end, File.seek0, Block.stream, writes_append, Block.writes,
      List.append_nil, List.append_assoc]

theorem rawWrite_blocked (P : Nat) (s : St) (b : Bytes) : (rawWrite P s b).blocked = s.blocked := by
  fun_cases rawWrite P s b <;> rfl

theorem write_blocked (P : Nat) (s : St) (r : Bytes) : (write P s r).blocked = s.blocked := by
  unfold write
  rw [rawWrite_blocked, rawWrite_blocked]

theorem close_blocked (P : Nat) (s : St) : (close P s).blocked = s.blocked := by
  fun_cases close P s
  · rfl
  · dsimp only
    rw [apply_ite St.blocked, ite_self, rawWrite_blocked]

theorem write_unblocked (P : Nat) (s : St) (hb : s.blocked = false) (r : Bytes) :
    write P s r = { s with file := (s.file.write (be32 r.length)).write r } := by
  simp [write, rawWrite, hb]

theorem close_unblocked (P : Nat) (s : St) (hb : s.blocked = false) (hc : s.closed = false) :
    close P s = { s with file := (s.file.write (be32 0)).seek0, closed := true } := by
  simp [close, rawWrite, hb, hc]

theorem close_closed (P : Nat) (s : St) : (close P s).closed = true := by
  fun_cases close P s <;> simp [*]

theorem close_of_closed (P : Nat) (s : St) (h : s.closed = true) : close P s = s := by
  simp [close, h]

theorem close_idem (P : Nat) (s : St) : close P (close P s) = close P s :=
  close_of_closed P _ (close_closed P s)

theorem foldl_fin_closed (P : Nat) (s : St) (h : s.closed = true) (fs : List Fin) :
    fs.foldl (fin P) s = s := by
  induction fs with
  | nil => rfl
  | cons f fs ih => simp only [List.foldl_cons, fin, close_of_closed P s h]; exact ih

theorem fins_eq_close (P : Nat) (s : St) (f : Fin) (fs : List Fin) :
    (f :: fs).foldl (fin P) s = close P s := by
  simp only [List.foldl_cons, fin]
  exact foldl_fin_closed P _ (close_closed P s) fs

end Writer

open Vbs

/-- what the record reader sees of a file: the file itself, or the payload stream of a blocked one -/
def recordStream (P : Nat) (blocked : Bool) (f : Bytes) : Bytes := if blocked then payloads P f else f

/-- where a cut after `n` file bytes falls in the record stream -/
def cutAt (P : Nat) (blocked : Bool) (n : Nat) : Nat := if blocked then surv P n else n

theorem ipmReadAll_recordStream {α} (P ml : Nat) (dec : Bytes → Outcome α) (fuel : Nat) (blocked : Bool) (f : Bytes) :
    (if blocked then ipmReadAll (unblockSrc P) ml dec fuel (init ⟨f, []⟩) else ipmReadAll plainSrc ml dec fuel (init f)) =
      ipmReadAll plainSrc ml dec fuel (init (recordStream P blocked f)) := by
  cases blocked
  · rfl
  · exact ipmReadAll_unblock P ml dec fuel ⟨f, []⟩ 1 none

theorem vbsBytesToList_eq (P ml : Nat) (blocked : Bool) (f : Bytes) :
    vbsBytesToList P ml blocked f = readAll plainSrc ml (f.length + 1) (init (recordStream P blocked f)) := by
  cases blocked
  · rfl
  · exact readAll_unblock P ml _ ⟨f, []⟩ 1 none

theorem length_recordStream_le (P : Nat) (blocked : Bool) (f : Bytes) : (recordStream P blocked f).length ≤ f.length := by
  cases blocked
  · exact Nat.le_refl _
  · exact length_payloads_le P f

theorem recordStream_take (P : Nat) (blocked : Bool) (f : Bytes) (n : Nat) :
    recordStream P blocked (f.take n) = (recordStream P blocked f).take (cutAt P blocked n) := by
  cases blocked
  · rfl
  · exact payloads_take P f n

theorem recordStream_listToBytes {P : Nat} (hP : 0 < P) (blocked : Bool) (recs : List Bytes) :
    ∃ k, recordStream P blocked (Writer.listToBytes P blocked recs) =
      vbsBytes recs ++ (be32 0 ++ List.replicate k padByte) := by
  rw [Writer.listToBytes_eq]
  cases blocked
  · exact ⟨0, by simp [recordStream]⟩
  · obtain ⟨k, _, hk⟩ := stream_payloads hP (Writer.rawWrites recs ++ [be32 0])
    exact ⟨k, by simp [recordStream, hk, Writer.rawWrites_flatten]⟩

theorem take_recordStream {P n : Nat} (hn : n ≤ P) (blocked : Bool) (f : Bytes) :
    (recordStream P blocked f).take n = f.take n := by
  cases blocked
  · rfl
  · exact take_payloads hn f

end Cardutil
