import Cardutil.Model.BitArray
import Cardutil.Py.Digits
/-
  Flags and bytes (`BitArray.tolist` / `fromlist`): eight flags are the binary digits of one byte, so both conversions
  are the regrouping of digits between base 2 and base 256 (`Py/Digits.lean`), and each inverts the other.
-/
namespace Cardutil.Iso

open Cardutil Cardutil.Digits

def b2n (b : Bool) : Nat := if b then 1 else 0

theorem b2n_lt (bits : List Bool) : ∀ d ∈ bits.map b2n, d < 2 := by
  intro d hd
  obtain ⟨b, _, rfl⟩ := List.mem_map.mp hd
  cases b <;> decide

theorem bits_back (l : List Nat) (h : ∀ d ∈ l, d < 2) : (l.map (· == 1)).map b2n = l := by
  rw [List.map_map]
  refine (List.map_congr_left fun d hd => ?_).trans (List.map_id l)
  have : d = 0 ∨ d = 1 := by have := h d hd; omega
  rcases this with rfl | rfl <;> rfl

theorem flags_back (l : List Bool) : (l.map b2n).map (· == 1) = l := by
  rw [List.map_map]
  exact (List.map_congr_left fun b _ => by cases b <;> rfl).trans (List.map_id l)

theorem bitsOfBytes_eq_digits (b : Bytes) : bitsOfBytes b = (b.flatMap (Digits.toDigits 2 8)).map (· == 1) := by
  simp only [bitsOfBytes, List.map_flatMap, Digits.toDigits_eq_map_range, List.map_map]
  rfl

theorem bytesOfBits_append8 (l rest : List Bool) (h : l.length = 8) :
    bytesOfBits (l ++ rest) = fromDigits 2 (l.map b2n) :: bytesOfBits rest := by
  obtain ⟨b0, b1, b2, b3, b4, b5, b6, b7, rfl⟩ : ∃ b0 b1 b2 b3 b4 b5 b6 b7, l = [b0, b1, b2, b3, b4, b5, b6, b7] :=
    ⟨_, _, _, _, _, _, _, _, h ▸ eq_map_range false l⟩
  refine congrArg (· :: bytesOfBits rest) ?_
  -- the same Horner sum: the model multiplies on the right, `fromDigits` on the left
  simp only [fromDigits, List.foldl, List.map, b2n, Nat.mul_comm 2, Nat.zero_mul, Nat.zero_add]

theorem bitsOfBytes_cons (x : Nat) (xs : Bytes) :
    bitsOfBytes (x :: xs) = (toDigits 2 8 x).map (· == 1) ++ bitsOfBytes xs := by
  rw [bitsOfBytes_eq_digits, bitsOfBytes_eq_digits, List.flatMap_cons, List.map_append]

/-- `BitArray(b).tolist()` back to bytes -/
theorem bytesOfBits_bitsOfBytes (b : Bytes) (hb : ∀ x ∈ b, x < 256) : bytesOfBits (bitsOfBytes b) = b := by
  induction b with
  | nil => rfl
  | cons x xs ih =>
    rw [bitsOfBytes_cons, bytesOfBits_append8 _ _ (by simp), bits_back _ (toDigits_lt (by decide) 8 x),
      fromDigits_toDigits 8 x (hb x (by simp)), ih (fun y hy => hb y (by simp [hy]))]

theorem bytesOfBits_eq_digits (n : Nat) (l : List Bool) (h : l.length = 8 * n) :
    bytesOfBits l = toDigits 256 n (fromDigits 2 (l.map b2n)) := by
  have := packing_eq_toDigits (b := 2) (k := 8) (fun ds => bytesOfBits (ds.map (· == 1)))
    (fun B hB => by rw [← bitsOfBytes_eq_digits]; exact bytesOfBits_bitsOfBytes B hB) (by decide) (b2n_lt l)
    (by rw [List.length_map, h])
  rwa [flags_back] at this

theorem bytesOfBits_length (n : Nat) (l : List Bool) (h : l.length = 8 * n) : (bytesOfBits l).length = n := by
  rw [bytesOfBits_eq_digits n l h, length_toDigits]

theorem bytesOfBits_lt (n : Nat) (l : List Bool) (h : l.length = 8 * n) : ∀ b ∈ bytesOfBits l, b < 256 := by
  rw [bytesOfBits_eq_digits n l h]; exact toDigits_lt (by decide) _ _

/-- `BitArray.fromlist(l).tolist() = l` for whole bytes -/
theorem bitsOfBytes_bytesOfBits (n : Nat) (l : List Bool) (h : l.length = 8 * n) : bitsOfBytes (bytesOfBits l) = l := by
  rw [bytesOfBits_eq_digits n l h, bitsOfBytes_eq_digits, ← toDigits_pow 2 8, ← h, ← List.length_map (f := b2n),
    toDigits_fromDigits _ (b2n_lt l), flags_back]

theorem bitsOfBytes_length (b : Bytes) : (bitsOfBytes b).length = 8 * b.length := by
  induction b with
  | nil => rfl
  | cons x xs ih =>
    rw [bitsOfBytes_cons, List.length_append, List.length_map, length_toDigits, ih, List.length_cons, Nat.mul_succ, Nat.add_comm]

end Cardutil.Iso
