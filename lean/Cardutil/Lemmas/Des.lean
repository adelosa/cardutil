import Cardutil.Model.Des
import Cardutil.Lemmas.BitArray
import Cardutil.Lemmas.Table
/-
  Decryption inverts encryption for the DES / Triple DES model — from the Feistel structure (whatever the round
  function is) and from the fact that the initial and final permutation tables are inverse to each other.
  Bits <-> bytes is the conversion of Model/BitArray.lean written with other arithmetic: its lemmas
  (Lemmas/BitArray.lean) are used through `bitsOfBytes_eq_iso` and `bytesOfBits_eq_iso`.
-/
namespace Cardutil.Des

@[simp] theorem perm_length (t : List Nat) (x : Bits) : (perm t x).length = t.length := by simp [perm]

theorem perm_perm (s t : List Nat) (x : Bits) (h : ∀ p ∈ s, p - 1 < t.length) :
    perm s (perm t x) = perm (s.map (fun p => t.getD (p - 1) 0)) x := by
  unfold perm
  rw [List.map_map]
  apply List.map_congr_left
  intro p hp
  show (t.map _).getD (p - 1) false = x.getD (t.getD (p - 1) 0 - 1) false
  rw [List.getD_eq_getElem?_getD, List.getElem?_map, List.getD_eq_getElem?_getD (l := t), List.getElem?_eq_getElem (h p hp)]
  rfl

theorem perm_range (x : Bits) : perm ((List.range x.length).map (· + 1)) x = x := by
  apply List.ext_getElem (by simp)
  intro i h1 h2
  simp [perm, List.getD_eq_getElem?_getD, List.getElem?_eq_getElem h2]

/-- `perm s` undoes `perm t` when the entries of `t` that `s` selects are `1, 2, …`; they are read out of `pack B t`
    by one division each, where `t.getD` would walk the table -/
theorem perm_inverse {s t : List Nat} (B : Nat) (ht : ∀ x ∈ t, x < B) (hs : ∀ p ∈ s, p - 1 < t.length) (b : Bits)
    (e : s.map (fun p => Table.pack B t / B ^ (p - 1) % B) = (List.range b.length).map (· + 1)) :
    perm s (perm t b) = b := by
  rw [perm_perm s t b hs, List.map_congr_left (fun p _ => (Table.pack_getD ht (p - 1)).symm), e, perm_range]

theorem perm_ip_fp (b : Bits) (hb : b.length = 64) : perm IP (perm FP b) = b :=
  perm_inverse 65 (by decide +kernel) (by decide +kernel) b (by rw [hb]; decide +kernel)

theorem perm_fp_ip (b : Bits) (hb : b.length = 64) : perm FP (perm IP b) = b :=
  perm_inverse 65 (by decide +kernel) (by decide +kernel) b (by rw [hb]; decide +kernel)

theorem xorB_length (a b : Bits) : (xorB a b).length = min a.length b.length := by simp [xorB]

theorem xorB_cancel : ∀ (a b : Bits), a.length ≤ b.length → xorB (xorB a b) b = a
  | [], _, _ => by simp [xorB]
  | x :: a, [], h => by simp at h
  | x :: a, y :: b, h => by
    have ih := xorB_cancel a b (by simpa using h)
    simp only [xorB, List.zipWith_cons_cons] at ih ⊢
    rw [ih]
    cases x <;> cases y <;> rfl

theorem f_length (r k : Bits) : (f r k).length = 32 := by simp [f, P]

/-- a Feistel network undoes itself whatever the round function `F` is, as long as its output has the width `n` of a half -/
theorem feistel_any {κ} (F : Bits → κ → Bits) (n : Nat) (hF : ∀ r k, (F r k).length = n) (ks : List κ) :
    ∀ (l r : Bits), l.length = n → r.length = n →
    let step := fun (lr : Bits × Bits) k => (lr.2, xorB lr.1 (F lr.2 k))
    let out := ks.foldl step (l, r)
    out.1.length = n ∧ out.2.length = n ∧ ks.reverse.foldl step (out.2, out.1) = (r, l) := by
  induction ks with
  | nil => intro l r hl hr; exact ⟨hl, hr, rfl⟩
  | cons k ks ih =>
    intro l r hl hr
    have hx : (xorB l (F r k)).length = n := by rw [xorB_length, hF, hl, Nat.min_self]
    obtain ⟨h1, h2, h3⟩ := ih r (xorB l (F r k)) hr hx
    simp only [List.foldl_cons] at h1 h2 h3 ⊢
    refine ⟨h1, h2, ?_⟩
    rw [List.reverse_cons, List.foldl_append, h3]
    simp only [List.foldl_cons, List.foldl_nil]
    rw [xorB_cancel l (F r k) (by rw [hl, hF]; exact Nat.le_refl _)]

theorem feistel (ks : List Bits) : ∀ (l r : Bits), l.length = 32 → r.length = 32 →
    let out := ks.foldl round (l, r)
    out.1.length = 32 ∧ out.2.length = 32 ∧ ks.reverse.foldl round (out.2, out.1) = (r, l) :=
  feistel_any f 32 f_length ks

theorem core_inverse (ks : List Bits) (b : Bits) (hb : b.length = 64) : core ks.reverse (core ks b) = b := by
  unfold core
  have hx : (perm IP b).length = 64 := perm_length IP b
  have hl : ((perm IP b).take 32).length = 32 := by simp [hx]
  have hr : ((perm IP b).drop 32).length = 32 := by simp [hx]
  obtain ⟨h1, h2, h3⟩ := feistel ks _ _ hl hr
  simp only at h1 h2 h3 ⊢
  have hcat : ((ks.foldl round ((perm IP b).take 32, (perm IP b).drop 32)).2 ++
      (ks.foldl round ((perm IP b).take 32, (perm IP b).drop 32)).1).length = 64 := by
    simp [h1, h2]
  rw [perm_ip_fp _ hcat]
  rw [List.take_left' h2, List.drop_left' h2, h3]
  simp only [List.take_append_drop]
  exact perm_fp_ip b hb

theorem core_length (ks : List Bits) (b : Bits) : (core ks b).length = 64 := by simp [core, FP]

theorem dec_enc (key b : Bits) (hb : b.length = 64) : decBlock key (encBlock key b) = b :=
  core_inverse (subkeys key) b hb

theorem enc_dec (key b : Bits) (hb : b.length = 64) : encBlock key (decBlock key b) = b := by
  have := core_inverse (subkeys key).reverse b hb
  rwa [List.reverse_reverse] at this

theorem enc_length (key b : Bits) : (encBlock key b).length = 64 := core_length _ _
theorem dec_length (key b : Bits) : (decBlock key b).length = 64 := core_length _ _

/-- the block map that `tdesEcb` applies, by direction -/
abbrev tdesBlock (d : Bool) : Bits → Bits → Bits → Bits → Bits := if d then tdesDecBlock else tdesEncBlock

theorem tdesBlock_length (d : Bool) (k1 k2 k3 b : Bits) : (tdesBlock d k1 k2 k3 b).length = 64 := by
  cases d <;> exact core_length _ _

theorem tdesBlock_inv (d : Bool) (k1 k2 k3 b : Bits) (hb : b.length = 64) :
    tdesBlock (!d) k1 k2 k3 (tdesBlock d k1 k2 k3 b) = b := by
  cases d
  · show decBlock k1 (encBlock k2 (decBlock k3 (encBlock k3 (decBlock k2 (encBlock k1 b))))) = b
    rw [dec_enc k3 _ (dec_length _ _), enc_dec k2 _ (enc_length _ _), dec_enc k1 b hb]
  · show encBlock k3 (decBlock k2 (encBlock k1 (decBlock k1 (encBlock k2 (decBlock k3 b))))) = b
    rw [enc_dec k1 _ (enc_length _ _), dec_enc k2 _ (dec_length _ _), enc_dec k3 b hb]

def IsBytes (b : Bytes) : Prop := ∀ x ∈ b, x < 256

theorem bitsOfBytes_eq_iso (b : Bytes) : bitsOfBytes b = Iso.bitsOfBytes b := rfl

theorem bytesOfBits_eq_iso : ∀ l : Bits, bytesOfBits l = Iso.bytesOfBits l := by
  intro l
  fun_induction bytesOfBits l with
  | case1 b0 b1 b2 b3 b4 b5 b6 b7 rest ih =>
    rw [Iso.bytesOfBits, ← ih]
    congr 1
    simp +arith only [b2n]
  | case2 l h => rw [Iso.bytesOfBits.eq_2 l h]

/-- a map of 64-bit blocks as a map of 8-byte blocks: how one block goes through the cipher -/
def onBytes (φ : Bits → Bits) (blk : Bytes) : Bytes := bytesOfBits (φ (bitsOfBytes blk))

theorem onBytes_spec {φ : Bits → Bits} (hφ : ∀ b, (φ b).length = 64) (blk : Bytes) :
    (onBytes φ blk).length = 8 ∧ IsBytes (onBytes φ blk) := by
  unfold onBytes
  rw [bytesOfBits_eq_iso]
  exact ⟨Iso.bytesOfBits_length 8 _ (hφ _), Iso.bytesOfBits_lt 8 _ (hφ _)⟩

theorem onBytes_inv {φ ψ : Bits → Bits} (hφ : ∀ b, (φ b).length = 64) (hψ : ∀ b, b.length = 64 → ψ (φ b) = b)
    {blk : Bytes} (hl : blk.length = 8) (hb : IsBytes blk) : onBytes ψ (onBytes φ blk) = blk := by
  unfold onBytes
  rw [bytesOfBits_eq_iso, bytesOfBits_eq_iso, bitsOfBytes_eq_iso, bitsOfBytes_eq_iso,
    Iso.bitsOfBytes_bytesOfBits 8 _ (hφ _), hψ _ (by rw [Iso.bitsOfBytes_length, hl]), Iso.bytesOfBits_bitsOfBytes blk hb]

theorem block_roundtrip' (k1 k2 k3 : Bits) (blk : Bytes) (hl : blk.length = 8) (hb : IsBytes blk) :
    bytesOfBits (tdesEncBlock k1 k2 k3 (bitsOfBytes (bytesOfBits (tdesDecBlock k1 k2 k3 (bitsOfBytes blk))))) = blk :=
  onBytes_inv (tdesBlock_length true k1 k2 k3) (tdesBlock_inv true k1 k2 k3) hl hb

theorem blocks8_append (blk rest : Bytes) (h : blk.length = 8) : blocks8 (blk ++ rest) = blk :: blocks8 rest := by
  rw [eq_map_range 0 blk, h]
  rfl

theorem blocks8_spec : ∀ (n : Nat) (data : Bytes), data.length = 8 * n →
    (blocks8 data).flatten = data ∧ (blocks8 data).length = n ∧ ∀ blk ∈ blocks8 data, blk.length = 8 ∧ ∀ x ∈ blk, x ∈ data := by
  intro n
  induction n with
  | zero => intro data h; simp [List.eq_nil_of_length_eq_zero h, blocks8]
  | succ n ih =>
    intro data h
    obtain ⟨blk, rest, rfl, h8⟩ : ∃ blk rest, data = blk ++ rest ∧ blk.length = 8 :=
      ⟨_, _, (List.take_append_drop 8 data).symm, List.length_take_of_le (h ▸ Nat.le_mul_of_pos_right 8 n.succ_pos)⟩
    rw [List.length_append, h8, Nat.mul_succ, Nat.add_comm] at h
    obtain ⟨h1, h2, h3⟩ := ih rest (Nat.add_right_cancel h)
    rw [blocks8_append blk rest h8]
    refine ⟨by rw [List.flatten_cons, h1], by rw [List.length_cons, h2], fun b hb => ?_⟩
    rcases List.mem_cons.mp hb with rfl | hb
    · exact ⟨h8, fun x hx => List.mem_append_left rest hx⟩
    · exact ⟨(h3 b hb).1, fun x hx => List.mem_append_right blk ((h3 b hb).2 x hx)⟩

theorem blocks8_flatMap (g : Bytes → Bytes) : ∀ (l : List Bytes), (∀ x ∈ l, (g x).length = 8) →
    blocks8 (l.flatMap g) = l.map g := by
  intro l
  induction l with
  | nil => intro _; rfl
  | cons x xs ih =>
    intro h
    rw [List.flatMap_cons, blocks8_append _ _ (h x (by simp)), ih (fun y hy => h y (by simp [hy])), List.map_cons]

theorem flatMap_length8 (g : Bytes → Bytes) (l : List Bytes) (h : ∀ x ∈ l, (g x).length = 8) :
    (l.flatMap g).length = 8 * l.length := length_flatMap_const h

theorem ecb_length (En : Bytes → Bytes) (hlen : ∀ b, (En b).length = 8) (data : Bytes) (hd : data.length % 8 = 0) :
    ((blocks8 data).flatMap En).length = data.length := by
  have h8 : 8 * (data.length / 8) = data.length := Nat.mul_div_cancel' (Nat.dvd_of_mod_eq_zero hd)
  obtain ⟨_, hn, _⟩ := blocks8_spec (data.length / 8) data h8.symm
  rw [flatMap_length8 _ _ (fun x _ => hlen x), hn, h8]

/-- ECB over whole blocks: a block map that is undone block by block is undone -/
theorem ecb_roundtrip (En De : Bytes → Bytes) (hlen : ∀ b, (En b).length = 8)
    (hinv : ∀ b : Bytes, b.length = 8 → IsBytes b → De (En b) = b) (data : Bytes) (hd : data.length % 8 = 0)
    (hb : IsBytes data) : (blocks8 ((blocks8 data).flatMap En)).flatMap De = data := by
  obtain ⟨hflat, _, hblk⟩ := blocks8_spec (data.length / 8) data (by omega)
  rw [blocks8_flatMap _ _ (fun x _ => hlen x), List.flatMap_map, List.flatMap_def,
    List.map_congr_left (g := id) fun blk hbk => hinv blk (hblk blk hbk).1 (fun x hx => hb x ((hblk blk hbk).2 x hx)),
    List.map_id, hflat]

theorem tdesEcb_eq_ok {d : Bool} {key data out : Bytes} : tdesEcb d key data = .ok out ↔
    ∃ k1 k2 k3, splitKey key = some (k1, k2, k3) ∧ data.length % 8 = 0 ∧
      out = (blocks8 data).flatMap (onBytes (tdesBlock d k1 k2 k3)) := by
  unfold tdesEcb
  constructor
  · intro h
    split at h
    · cases h
    · rename_i k1 k2 k3 hk
      by_cases hd : data.length % 8 = 0
      · rw [if_neg (not_not_intro hd)] at h
        cases h
        exact ⟨k1, k2, k3, hk, hd, rfl⟩
      · rw [if_pos hd] at h
        cases h
  · rintro ⟨k1, k2, k3, hk, hd, rfl⟩
    rw [hk]
    simp only
    rw [if_neg (not_not_intro hd)]
    rfl

theorem tdesEcb_inv (d : Bool) {key data out : Bytes} (hb : IsBytes data) (h : tdesEcb d key data = .ok out) :
    tdesEcb (!d) key out = .ok data := by
  obtain ⟨k1, k2, k3, hk, hd, rfl⟩ := tdesEcb_eq_ok.mp h
  have hlen := fun b => (onBytes_spec (tdesBlock_length d k1 k2 k3) b).1
  exact tdesEcb_eq_ok.mpr ⟨k1, k2, k3, hk, by rw [ecb_length _ hlen data hd, hd],
    (ecb_roundtrip _ _ hlen (fun b => onBytes_inv (tdesBlock_length d k1 k2 k3) (tdesBlock_inv d k1 k2 k3)) data hd hb).symm⟩

/-- Triple DES ECB: decrypting what was encrypted under the same key gives the data back — for every key of 8, 16 or
    24 bytes and every whole number of blocks -/
theorem tdesEcb_dec_enc (key data : Bytes) (ct : Bytes) (hb : IsBytes data) (h : tdesEcb false key data = .ok ct) :
    tdesEcb true key ct = .ok data := tdesEcb_inv false hb h

theorem tdesEcb_out {d : Bool} {key data out : Bytes} (h : tdesEcb d key data = .ok out) :
    out.length = data.length ∧ IsBytes out := by
  obtain ⟨k1, k2, k3, _, hd, rfl⟩ := tdesEcb_eq_ok.mp h
  have hspec := onBytes_spec (tdesBlock_length d k1 k2 k3)
  refine ⟨ecb_length _ (fun b => (hspec b).1) data hd, fun x hx => ?_⟩
  obtain ⟨blk, _, hb⟩ := List.mem_flatMap.mp hx
  exact (hspec blk).2 x hb

theorem tdesEcb_isBytes (decrypt : Bool) (key data out : Bytes) (h : tdesEcb decrypt key data = .ok out) : IsBytes out :=
  (tdesEcb_out h).2

theorem splitKey_some (key : Bytes) (hk : key.length = 8 ∨ key.length = 16 ∨ key.length = 24) :
    ∃ k1 k2 k3, splitKey key = some (k1, k2, k3) := by
  unfold splitKey
  rcases hk with h | h | h <;> rw [h] <;> exact ⟨_, _, _, rfl⟩

theorem tdesFn_spec (key data : Bytes) (hk : key.length = 8 ∨ key.length = 16 ∨ key.length = 24)
    (hd : data.length % 8 = 0) :
    tdesEcb false key data = .ok (tdesFn key data) ∧ (tdesFn key data).length = data.length ∧ IsBytes (tdesFn key data) := by
  obtain ⟨k1, k2, k3, hs⟩ := splitKey_some key hk
  have hct := (tdesEcb_eq_ok (d := false)).mpr ⟨k1, k2, k3, hs, hd, rfl⟩
  have e : tdesEcb false key data = .ok (tdesFn key data) := by rw [tdesFn, hct]
  exact ⟨e, tdesEcb_out e⟩

theorem tdesEcb_roundtrip (key data : Bytes) (hk : key.length = 8 ∨ key.length = 16 ∨ key.length = 24)
    (hd : data.length % 8 = 0) (hb : IsBytes data) :
    ∃ ct, tdesEcb false key data = .ok ct ∧ ct.length = data.length ∧ tdesEcb true key ct = .ok data :=
  have ⟨hct, hl, _⟩ := tdesFn_spec key data hk hd
  ⟨_, hct, hl, tdesEcb_dec_enc key data _ hb hct⟩

end Cardutil.Des
