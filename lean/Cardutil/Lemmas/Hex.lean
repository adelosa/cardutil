import Cardutil.Py.Hex
import Cardutil.Py.Digits
/-
  The hex text layer (Py/Hex.lean): hex digits, `int(s, 16)`, `f'{v:0{w}x}'`, XOR, and bytes as pairs of
  nibbles (`hexlify` / `unhexlify`), the last as the regrouping of digits between base 16 and base 256.  At the end:
  decimal digit text (a PIN, a PAN) read as hex text.  The namespace is that of the definitions, `Cardutil.Pin`.
-/
namespace Cardutil.Pin

open Cardutil Cardutil.Digits

theorem hexNibble_hexChar {n : Nat} (h : n < 16) : hexNibble? (hexChar n) = some n := by
  revert n
  decide

theorem hexNibble_lt {c n : Nat} (h : hexNibble? c = some n) : n < 16 := by
  revert h
  fun_cases hexNibble? c with
  | case1 h1 | case2 _ h1 | case3 _ _ h1 => rintro ⟨⟩; exact Nat.lt_of_le_of_lt (Nat.sub_le_sub_right h1.2 _) (by decide)
  | case4 => nofun

theorem parseHexText_nil : parseHexText [] = some [] := rfl

theorem parseHexText_cons (c : Nat) (t : Text) :
    parseHexText (c :: t) = (hexNibble? c).bind (fun n => (parseHexText t).map (n :: ·)) := by
  unfold parseHexText
  rw [List.mapM_cons]
  cases hexNibble? c with
  | none => rfl
  | some n => cases List.mapM hexNibble? t <;> rfl

theorem parseHexText_spec (t : Text) (ns : List Nat) (h : parseHexText t = some ns) :
    ns.length = t.length ∧ ∀ n ∈ ns, n < 16 :=
  ⟨mapM_length h, mapM_forall (fun _ _ => hexNibble_lt) h⟩

theorem parseHexText_append {a b : Text} {na nb : List Nat} (ha : parseHexText a = some na)
    (hb : parseHexText b = some nb) : parseHexText (a ++ b) = some (na ++ nb) :=
  mapM_append_some ha hb

theorem parseHexText_hexChars (ns : List Nat) (h : ∀ n ∈ ns, n < 16) :
    parseHexText (ns.map hexChar) = some ns := by
  induction ns with
  | nil => rfl
  | cons n ns ih =>
    rw [List.map_cons, parseHexText_cons, hexNibble_hexChar (h n (by simp)),
      ih (fun x hx => h x (by simp [hx]))]
    rfl

theorem hexMin_small {n : Nat} (h : n < 16) : hexMin n = [n] := by
  rw [hexMin]; simp [h]

theorem intHex_of_parse {t : Text} {n : Nat} {ns : List Nat} (h : parseHexText t = some (n :: ns)) :
    intHex t = .ok (fromDigits 16 (n :: ns)) := by
  simp [intHex, h]

theorem intHex_hexChars {ns : List Nat} (hne : ns ≠ []) (h : ∀ n ∈ ns, n < 16) :
    intHex (ns.map hexChar) = .ok (fromDigits 16 ns) := by
  have hp := parseHexText_hexChars ns h
  cases ns with
  | nil => exact absurd rfl hne
  | cons n ns => exact intHex_of_parse hp

theorem pow16 : (16 : Nat) ^ 16 = 2 ^ 64 := by decide

theorem pow256 : (256 : Nat) ^ 8 = 2 ^ 64 := by decide

theorem pow16_two (w : Nat) : (16 : Nat) ^ w = 2 ^ (4 * w) := by
  rw [show (16 : Nat) = 2 ^ 4 by decide, ← Nat.pow_mul]

theorem intHex_lt {t : Text} {x : Nat} (h : intHex t = .ok x) : x < 16 ^ t.length := by
  unfold intHex at h
  split at h
  · rename_i n ns hp
    obtain ⟨hl, hm⟩ := parseHexText_spec t (n :: ns) hp
    cases h
    exact hl ▸ fromDigits_lt _ hm
  · cases h

theorem fmtHexW_of_lt {w v : Nat} (h : v < 16 ^ w) : fmtHexW w v = toDigits 16 w v := if_pos h

/-- `int(t, 16)` of a text of `w` hex digits: the number below `16 ^ w` that has these digits -/
theorem intHex_parsed {t : Text} {ns : List Nat} {w : Nat} (hp : parseHexText t = some ns) (hl : ns.length = w) (hw : 0 < w) :
    ∃ v, intHex t = .ok v ∧ v < 16 ^ w ∧ toDigits 16 w v = ns := by
  have hlt := (parseHexText_spec t ns hp).2
  refine ⟨fromDigits 16 ns, ?_, hl ▸ fromDigits_lt ns hlt, toDigits_fromDigits_of_length hlt hl⟩
  cases ns with
  | nil => subst hl; exact absurd hw (Nat.lt_irrefl 0)
  | cons n ns => exact intHex_of_parse hp

theorem binDigit_digit : ∀ d, d < 2 → binDigit? (48 + d) = some d := by decide

theorem mapM_binDigit (ds : List Nat) (h : ∀ d ∈ ds, d < 2) : (ds.map (48 + ·)).mapM binDigit? = some ds := by
  induction ds with
  | nil => rfl
  | cons d ds ih =>
    rw [List.map_cons, List.mapM_cons, binDigit_digit d (h d List.mem_cons_self),
      ih fun x hx => h x (List.mem_cons_of_mem _ hx)]
    rfl

/-- `int(t, 2)` of the characters `'0'` / `'1'` of the binary digits `ds` -/
theorem intBin_digits {ds : List Nat} (hne : ds ≠ []) (h : ∀ d ∈ ds, d < 2) :
    intBin (ds.map (48 + ·)) = .ok (fromDigits 2 ds) := by
  unfold intBin
  rw [mapM_binDigit ds h]
  cases ds with
  | nil => exact absurd rfl hne
  | cons d ds => rfl

/-! ### XOR of numbers written in hex (digit by digit: `Digits.toDigits_xor`) -/

theorem xor_cancel (a b : Nat) : (a ^^^ b) ^^^ b = a := by
  rw [Nat.xor_assoc, Nat.xor_self, Nat.xor_zero]

theorem xor_lt_pow16 {a b m n : Nat} (ha : a < 16 ^ m) (hb : b < 16 ^ n) : a ^^^ b < 16 ^ max m n := by
  rw [pow16_two] at *
  exact Nat.xor_lt_two_pow
    (Nat.lt_of_lt_of_le ha (Nat.pow_le_pow_right (by decide) (Nat.mul_le_mul_left 4 (Nat.le_max_left m n))))
    (Nat.lt_of_lt_of_le hb (Nat.pow_le_pow_right (by decide) (Nat.mul_le_mul_left 4 (Nat.le_max_right m n))))

/-- nibble-wise XOR of two hex fields of one length is the XOR of the numbers they spell -/
theorem fromDigits_xor (a b : List Nat) (hl : a.length = b.length) (ha : ∀ n ∈ a, n < 16)
    (hb : ∀ n ∈ b, n < 16) :
    fromDigits 16 a ^^^ fromDigits 16 b = fromDigits 16 (List.zipWith (· ^^^ ·) a b) := by
  have hlt := xor_lt_pow16 (fromDigits_lt a ha) (hl ▸ fromDigits_lt b hb)
  rw [Nat.max_self] at hlt
  have h := toDigits_xor 4 a.length (fromDigits 16 a) (fromDigits 16 b)
  rw [toDigits_fromDigits_of_length ha rfl, toDigits_fromDigits_of_length hb hl.symm] at h
  rw [← h, fromDigits_toDigits _ _ hlt]

theorem zipWith_xor_lt16 (a b : List Nat) (ha : ∀ n ∈ a, n < 16) (hb : ∀ n ∈ b, n < 16) :
    ∀ n ∈ List.zipWith (· ^^^ ·) a b, n < 16 := by
  rw [← List.map_uncurry_zip_eq_zipWith]
  intro n hn
  obtain ⟨⟨x, y⟩, hxy, rfl⟩ := List.mem_map.mp hn
  exact Nat.xor_lt_two_pow (n := 4) (ha x (List.of_mem_zip hxy).1) (hb y (List.of_mem_zip hxy).2)

/-! ### bytes <-> nibbles: regrouping base 16 into base 256 -/

theorem bytesToNibbles_length (b : Bytes) : (bytesToNibbles b).length = 2 * b.length :=
  length_flatMap_const fun _ _ => rfl

theorem bytesToNibbles_eq {b : Bytes} (h : ∀ x ∈ b, x < 256) : bytesToNibbles b = b.flatMap (toDigits 16 2) := by
  rw [bytesToNibbles, List.flatMap_def, List.flatMap_def]
  refine congrArg List.flatten (List.map_congr_left fun x hx => ?_)
  have := h x hx
  simp only [toDigits, List.nil_append, List.cons_append, List.cons.injEq, and_true]
  exact (Nat.mod_eq_of_lt (Nat.div_lt_of_lt_mul this)).symm

theorem bytesToNibbles_lt {b : Bytes} (h : ∀ x ∈ b, x < 256) : ∀ n ∈ bytesToNibbles b, n < 16 := by
  rw [bytesToNibbles_eq h]
  intro n hn
  obtain ⟨x, _, hx⟩ := List.mem_flatMap.mp hn
  exact toDigits_lt (by decide) 2 x n hx

theorem toDigits256_nibbles (v : Nat) (w : Nat) : bytesToNibbles (toDigits 256 w v) = toDigits 16 (2 * w) v := by
  rw [bytesToNibbles_eq (toDigits_lt (by decide) w v), toDigits_pow 16 2 w v]

theorem nibblesToBytes_bytesToNibbles (b : Bytes) : nibblesToBytes (bytesToNibbles b) = b := by
  induction b with
  | nil => rfl
  | cons x xs ih =>
    rw [bytesToNibbles, List.flatMap_cons, List.cons_append, List.cons_append, List.nil_append, nibblesToBytes, ← bytesToNibbles, ih]
    exact congrArg (· :: xs) (by omega)

theorem nibblesToBytes_eq {ns : List Nat} {n : Nat} (h : ∀ d ∈ ns, d < 16) (hl : ns.length = 2 * n) :
    nibblesToBytes ns = toDigits 256 n (fromDigits 16 ns) :=
  packing_eq_toDigits (b := 16) (k := 2) nibblesToBytes
    (fun B hB => by rw [← bytesToNibbles_eq hB]; exact nibblesToBytes_bytesToNibbles B) (by decide) h hl

theorem bytesToNibbles_nibblesToBytes (ns : List Nat) (h : ∀ n ∈ ns, n < 16) (he : ns.length % 2 = 0) :
    bytesToNibbles (nibblesToBytes ns) = ns := by
  have hl : ns.length = 2 * (ns.length / 2) := by omega
  rw [nibblesToBytes_eq h hl, toDigits256_nibbles, ← hl, toDigits_fromDigits ns h]

theorem unhexlify_of_parse {t : Text} {ns : List Nat} (h : parseHexText t = some ns) (he : ns.length % 2 = 0) :
    unhexlify t = .ok (nibblesToBytes ns) := by
  rw [unhexlify, h]
  exact if_pos he

/-- `unhexlify(t)` of a text of `2 * n` hex digits: the `n` bytes that have these nibbles -/
theorem unhexlify_parsed {t : Text} {ns : List Nat} {n : Nat} (hp : parseHexText t = some ns) (hl : ns.length = 2 * n) :
    ∃ b, unhexlify t = .ok b ∧ b.length = n ∧ bytesToNibbles b = ns := by
  have hlt := (parseHexText_spec t ns hp).2
  have he : ns.length % 2 = 0 := by rw [hl, Nat.mul_mod_right]
  exact ⟨_, unhexlify_of_parse hp he, by rw [nibblesToBytes_eq hlt hl, length_toDigits],
    bytesToNibbles_nibblesToBytes ns hlt he⟩

theorem unhexlify_ok {t : Text} {b : Bytes} (h : unhexlify t = .ok b) : 2 * b.length = t.length ∧ ∀ x ∈ b, x < 256 := by
  revert h
  fun_cases unhexlify t with
  | case1 ns hp he =>
    rintro ⟨⟩
    obtain ⟨hl, hn⟩ := parseHexText_spec t ns hp
    have h2 : 2 * (ns.length / 2) = ns.length := Nat.mul_div_cancel' (Nat.dvd_of_mod_eq_zero he)
    rw [nibblesToBytes_eq hn h2.symm, length_toDigits]
    exact ⟨h2.trans hl, toDigits_lt (by decide) _ _⟩
  | case2 | case3 => exact nofun

/-! ### decimal digit text is hex text: the character `c` spells the nibble `c - 48` -/

/-- ASCII decimal digit text -/
def AllDigits (t : Text) : Prop := ∀ c ∈ t, 48 ≤ c ∧ c ≤ 57

theorem AllDigits.slice {t : Text} (h : AllDigits t) (i j : Nat) : AllDigits ((t.take i).drop j) :=
  fun c hc => h c (List.mem_of_mem_take (List.mem_of_mem_drop hc))

theorem digits_hexChar (t : Text) (h : AllDigits t) : (t.map (· - 48)).map hexChar = t := by
  rw [List.map_map]
  refine (List.map_congr_left fun c hc => ?_).trans (List.map_id t)
  have := h c hc
  rw [Function.comp_apply, hexChar, if_pos (by omega)]
  exact Nat.add_sub_cancel' this.1

theorem digits_lt16 (t : Text) (h : AllDigits t) : ∀ n ∈ t.map (· - 48), n < 16 :=
  List.forall_mem_map.mpr fun c hc => by have := h c hc; omega

theorem parseHexText_digits (t : Text) (h : AllDigits t) : parseHexText t = some (t.map (· - 48)) := by
  have := parseHexText_hexChars _ (digits_lt16 t h)
  rwa [digits_hexChar t h] at this

end Cardutil.Pin
