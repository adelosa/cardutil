import Cardutil.Model.Iso8583
/-
  Finite-map facts about the Python-dict model (`Dict.get` / `set` / `update`), its key list and `Config.get`.
  Reading `d.update(e)`: what `e` does not mention stays (`get_update_other`), a key under which every entry of `e`
  holds the same value reads as that value (`get_update_agree`), and nothing appears that was in neither (`mem_update`);
  where the keys of `e` are distinct, `e` wins key by key (`get_update_of_mem`, `get_update_nodup`).
-/
namespace Cardutil.Iso

theorem Dict.get_nil (k : Key) : Dict.get [] k = none := rfl

theorem Dict.get_cons (k' : Key) (v' : Val) (rest : Dict) (k : Key) :
    Dict.get ((k', v') :: rest) k = if k' = k then some v' else Dict.get rest k := by
  unfold Dict.get
  by_cases h : k' = k <;> simp [h]

theorem Dict.mem_of_get {d : Dict} {k : Key} {v : Val} (h : Dict.get d k = some v) : (k, v) ∈ d := mem_of_find_fst h

theorem Config.mem_of_get {cfg : Config} {bit : Nat} {f : FieldCfg} (h : cfg.get bit = some f) : (bit, f) ∈ cfg :=
  mem_of_find_fst h

/-- what holds of every entry holds of whatever a lookup returns -/
theorem Config.forall_get {cfg : Config} {P : FieldCfg → Prop} (h : ∀ e ∈ cfg, P e.2) :
    ∀ bit f, cfg.get bit = some f → P f := fun _ _ hget => h _ (Config.mem_of_get hget)

/-- `d[k] = v` then `d[k2]` -/
theorem Dict.get_set (d : Dict) (k k2 : Key) (v : Val) :
    Dict.get (Dict.set d k v) k2 = if k = k2 then some v else Dict.get d k2 := by
  fun_induction Dict.set d k v with
  | case1 k v => rw [Dict.get_cons]
  | case2 k' v' rest k v h =>
    rw [Dict.get_cons, Dict.get_cons, eq_of_beq h]
    split <;> rfl
  | case3 k' v' rest k v h ih =>
    have h1 : ¬ k' = k := by simpa using h
    rw [Dict.get_cons, Dict.get_cons, ih]
    by_cases h2 : k' = k2
    · rw [if_pos h2, if_pos h2, if_neg (fun e => h1 (h2.trans e.symm))]
    · rw [if_neg h2, if_neg h2]

theorem Dict.mem_set {d : Dict} {k : Key} {v : Val} {x : Key × Val} (h : x ∈ Dict.set d k v) : x = (k, v) ∨ x ∈ d := by
  fun_induction Dict.set d k v with
  | case1 k v => exact Or.inl (by simpa using h)
  | case2 k' v' rest k v _ => exact (List.mem_cons.mp h).imp_right (List.mem_cons_of_mem _)
  | case3 k' v' rest k v _ ih =>
    rcases List.mem_cons.mp h with h1 | h1
    · exact Or.inr (by simp [h1])
    · exact (ih h1).imp_right (List.mem_cons_of_mem _)

theorem Dict.forall_fst_set {P : Key → Prop} {d : Dict} (h : ∀ kv ∈ d, P kv.1) {k : Key} {v : Val} (hk : P k) :
    ∀ kv ∈ Dict.set d k v, P kv.1 := by
  intro kv hkv
  rcases Dict.mem_set hkv with rfl | h1
  · exact hk
  · exact h kv h1

/-! ### `update` -/

theorem Dict.mem_update {acc e : Dict} {kv : Key × Val} (h : kv ∈ Dict.update acc e) : kv ∈ acc ∨ kv ∈ e := by
  induction e generalizing acc with
  | nil => exact Or.inl h
  | cons x xs ih =>
    rcases ih (acc := Dict.set acc x.1 x.2) h with h1 | h1
    · exact (Dict.mem_set h1).symm.imp_right fun h2 => by rw [h2]; exact List.mem_cons_self
    · exact Or.inr (List.mem_cons_of_mem _ h1)

theorem Dict.get_update_other {acc e : Dict} {k : Key} (h : ∀ x ∈ e, x.1 ≠ k) :
    Dict.get (Dict.update acc e) k = Dict.get acc k := by
  induction e generalizing acc with
  | nil => rfl
  | cons x xs ih =>
    exact (ih (acc := Dict.set acc x.1 x.2) fun y hy => h y (List.mem_cons_of_mem _ hy)).trans
      (by rw [Dict.get_set, if_neg (h x List.mem_cons_self)])

/-- `k` is stored with `v` before or by `e`, and whatever `e` stores under `k` is `v`: the order of `e` does not matter -/
theorem Dict.get_update_agree {acc e : Dict} {k : Key} {v : Val}
    (hv : Dict.get acc k = some v ∨ (k, v) ∈ e) (hall : ∀ w, (k, w) ∈ e → w = v) :
    Dict.get (Dict.update acc e) k = some v := by
  induction e generalizing acc with
  | nil => exact hv.resolve_right List.not_mem_nil
  | cons x xs ih =>
    refine ih (acc := Dict.set acc x.1 x.2) ?_ fun w hw => hall w (List.mem_cons_of_mem _ hw)
    rw [Dict.get_set]
    by_cases hx : x.1 = k
    · subst hx
      rw [if_pos rfl, hall x.2 List.mem_cons_self]
      exact .inl rfl
    · rw [if_neg hx]
      exact hv.imp_right fun hm => (List.mem_cons.mp hm).resolve_left fun e => hx (congrArg Prod.fst e).symm

/-! ### keys -/

def keys (d : Dict) : List Key := d.map (·.1)

theorem Dict.get_eq_none_iff {d : Dict} {k : Key} : Dict.get d k = none ↔ k ∉ keys d := by
  simp only [Dict.get, keys, Option.map_eq_none_iff, List.find?_eq_none, List.mem_map, beq_iff_eq, not_exists, not_and]

theorem mem_keys_of_get {d : Dict} {k : Key} {v : Val} (h : Dict.get d k = some v) : k ∈ keys d :=
  List.mem_map.mpr ⟨_, Dict.mem_of_get h, rfl⟩

theorem keys_set (d : Dict) (k : Key) (v : Val) :
    keys (Dict.set d k v) = if k ∈ keys d then keys d else keys d ++ [k] := by
  fun_induction Dict.set d k v with
  | case1 k v => simp [keys]
  | case2 k' v' rest k v h =>
    obtain rfl : k' = k := by simpa using h
    exact (if_pos List.mem_cons_self).symm
  | case3 k' v' rest k v h ih =>
    have hk : ¬ k = k' := fun e => h (by simp [e])
    simp only [keys, List.map_cons, List.mem_cons] at ih ⊢
    rw [ih]
    by_cases hm : k ∈ List.map (·.1) rest
    · simp [hm]
    · simp [hm, hk]

theorem nodup_set {d : Dict} (h : (keys d).Nodup) (k : Key) (v : Val) : (keys (Dict.set d k v)).Nodup := by
  rw [keys_set]
  split
  · exact h
  · rename_i hm
    rw [List.nodup_append]
    exact ⟨h, by simp, by intro a ha b hb; simp at hb; subst hb; intro e; subst e; exact hm ha⟩

theorem nodup_update {d : Dict} (h : (keys d).Nodup) (e : Dict) : (keys (Dict.update d e)).Nodup := by
  unfold Dict.update
  induction e generalizing d with
  | nil => exact h
  | cons kv es ih => simp only [List.foldl_cons]; exact ih (nodup_set h _ _)

/-- distinct keys: every entry of `e` is read back -/
theorem Dict.get_update_of_mem {acc e : Dict} (he : (keys e).Nodup) {k : Key} {v : Val} (hm : (k, v) ∈ e) :
    Dict.get (Dict.update acc e) k = some v :=
  Dict.get_update_agree (.inr hm) fun _ hw => congrArg Prod.snd (inj_of_nodup_map he hw hm rfl)

/-- `d.update(e)`: entries of `e` win, everything else is kept -/
theorem Dict.get_update_nodup {acc e : Dict} (he : (keys e).Nodup) {k : Key} :
    Dict.get (Dict.update acc e) k = (Dict.get e k).or (Dict.get acc k) := by
  cases h : Dict.get e k with
  | none => exact Dict.get_update_other fun x hx hk => Dict.get_eq_none_iff.mp h (List.mem_map.mpr ⟨x, hx, hk⟩)
  | some v => exact Dict.get_update_of_mem he (Dict.mem_of_get h)

end Cardutil.Iso
