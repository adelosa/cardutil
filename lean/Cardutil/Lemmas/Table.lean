/-
  Finite tables under kernel evaluation.  `l[i]?` walks the list, so a sweep `∀ i < n, … l[f i] …` costs
  about n²/2 steps.  A fact about every ENTRY needs one pass (`all_getD`, `all_zipIdx`); a fact that needs
  random access reads the entries out of ONE number, the list in positional notation (`pack`), by a division.
-/
namespace Cardutil.Table

/-- `l` as a number in base `B`, entry `i` being digit `i`: least significant first, so that `pack_getD` reads an entry
    without knowing the length of the table (with `Digits.fromDigits` it would be `fromDigits B l.reverse`) -/
def pack (B : Nat) : List Nat → Nat
  | [] => 0
  | x :: l => x + B * pack B l

theorem pack_getD {B : Nat} {l : List Nat} (h : ∀ x ∈ l, x < B) (i : Nat) :
    pack B l / B ^ i % B = l.getD i 0 := by
  induction l generalizing i with
  | nil => rw [pack, Nat.zero_div, Nat.zero_mod]; rfl
  | cons x l ih =>
    have hx : x < B := h x List.mem_cons_self
    have hB : 0 < B := Nat.zero_lt_of_lt hx
    cases i with
    | zero => rw [pack, Nat.pow_zero, Nat.div_one, Nat.add_mul_mod_self_left, Nat.mod_eq_of_lt hx]; rfl
    | succ i =>
      rw [pack, Nat.pow_succ', ← Nat.div_div_eq_div_mul, Nat.add_mul_div_left _ _ hB, Nat.div_eq_of_lt hx,
        Nat.zero_add, ih (fun y hy => h y (List.mem_cons_of_mem _ hy))]
      rfl

theorem all_getD {α} {p : α → Bool} {l : List α} {d : α} (h : l.all p = true) (hd : p d = true) (i : Nat) :
    p (l.getD i d) = true := by
  rw [List.getD_eq_getElem?_getD]
  cases hi : l[i]? with
  | none => exact hd
  | some a => exact List.all_eq_true.mp h a (List.mem_of_getElem? hi)

theorem all_zipIdx {α} {p : Nat → α → Bool} {l : List α} (h : l.zipIdx.all (fun ai => p ai.2 ai.1) = true)
    {i : Nat} {a : α} (hi : l[i]? = some a) : p i a = true :=
  List.all_eq_true.mp h (a, i) (List.mk_mem_zipIdx_iff_getElem?.mpr hi)

theorem getD_getD_of_pack {B : Nat} {f g : List Nat} (hg : g.all (· < B) = true)
    (h : f.zipIdx.all (fun yi => pack B g / B ^ yi.1 % B == yi.2) = true) {i : Nat} (hi : i < f.length) :
    g.getD (f.getD i 0) 0 = i := by
  have := all_zipIdx (p := fun i y => pack B g / B ^ y % B == i) h (List.getElem?_eq_getElem hi)
  rw [beq_iff_eq, pack_getD (by simpa using hg)] at this
  rw [List.getD_eq_getElem?_getD (l := f), List.getElem?_eq_getElem hi]
  exact this

end Cardutil.Table
