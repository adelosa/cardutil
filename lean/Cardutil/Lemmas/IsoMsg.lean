import Cardutil.Lemmas.IsoLoop
import Cardutil.Lemmas.Bitmap
/-
  `encodeCore` as MTI ++ bitmap of the emitted elements ++ their renderings; the header and the bitmap read back.
-/
namespace Cardutil.Iso

open Cardutil Cardutil.Py Cardutil.Digits

/-- the bitmap as it stands in the encoding: 16 bytes or their 32 hex characters -/
def bitmapBytes (hexBitmap : Bool) (m : Dict) : Bytes :=
  if hexBitmap then hexlify (bitmapOf (emitted m allBits)) else bitmapOf (emitted m allBits)

theorem encodeCore_eq (env : Env) (cfg : Config) (hexBitmap : Bool) (m : Dict) :
    encodeCore env cfg hexBitmap m =
      (Outcome.mapO (encodeElem env cfg m) (emitted m allBits)).bind (fun parts =>
        (encodeMti env m).bind (fun mti => .ok (mti ++ bitmapBytes hexBitmap m ++ parts.flatten))) := by
  rw [encodeCore, ← allBits, encodeBits_eq, Outcome.bind_assoc]
  rfl

theorem encodeCore_eq_ok {env : Env} {cfg : Config} {hexBitmap : Bool} {m : Dict} {bs : Bytes} :
    encodeCore env cfg hexBitmap m = .ok bs ↔
      ∃ parts, Outcome.mapO (encodeElem env cfg m) (emitted m allBits) = .ok parts ∧ ∃ mti, encodeMti env m = .ok mti ∧
        bs = mti ++ bitmapBytes hexBitmap m ++ parts.flatten := by
  simp only [encodeCore_eq, Outcome.bind_eq_ok, Outcome.ok.injEq, eq_comm (b := bs)]

theorem presentBits_emitted (m : Dict) : presentBits (bitmapOf (emitted m allBits)) = emitted m allBits := by
  rw [presentBits_bitmapOf]
  refine List.filter_congr fun b hb => ?_
  simp only [emitted, List.contains_eq_mem, List.mem_filter, hb, true_and, Bool.decide_eq_true]

theorem emitted_configured {env : Env} {cfg : Config} {hexBitmap : Bool} {m : Dict} {bs : Bytes}
    (h : encodeCore env cfg hexBitmap m = .ok bs) : ∀ b ∈ emitted m allBits, ∃ f, cfg.get b = some f := by
  obtain ⟨parts, hp, _⟩ := encodeCore_eq_ok.mp h
  obtain ⟨hlen, hi⟩ := Outcome.mapO_eq_ok hp
  intro b hb
  obtain ⟨i, hi', rfl⟩ := List.getElem_of_mem hb
  obtain ⟨_, v, hv, hpv⟩ := mem_emitted.mp (List.getElem_mem hi')
  obtain ⟨f, hf, _⟩ := (encodeElem_eq_ok hv hpv).mp (hi i hi' (by omega))
  exact ⟨f, hf⟩

/-- the header reads back what `encodeCore` puts in front of the element data, for any 16 bitmap bytes -/
theorem decodeHeader_append {env : Env} (hexBitmap : Bool) {mb bitmap : Bytes} (data : Bytes) {mti : Text} {i : Int}
    (hmbl : mb.length = 4) (hdecm : env.codec.decode mb = some mti) (hi : pyInt env.classes mti = some i)
    (hbl : bitmap.length = 16) (hlt : ∀ x ∈ bitmap, x < 256) :
    decodeHeader env hexBitmap (mb ++ (if hexBitmap then hexlify bitmap else bitmap) ++ data) = .ok (mti, bitmap, data) := by
  -- the three slices the decoder takes, for a bitmap text `bm` of any length `n`
  have slices : ∀ (bm : Bytes) (n : Nat), bm.length = n → (mb ++ bm ++ data).take 4 = mb ∧
      ((mb ++ bm ++ data).drop 4).take n = bm ∧ (mb ++ bm ++ data).drop (4 + n) = data ∧
      ¬ (mb ++ bm ++ data).length < 4 + n := fun bm n hn =>
    ⟨by rw [List.append_assoc]; exact List.take_left' hmbl,
     by rw [List.append_assoc, List.drop_left' hmbl]; exact List.take_left' hn,
     List.drop_left' (by rw [List.length_append, hmbl, hn]),
     by rw [List.length_append, List.length_append, hmbl, hn]; exact Nat.not_lt.mpr (Nat.le_add_right _ _)⟩
  unfold decodeHeader
  cases hexBitmap
  · obtain ⟨h4, hbm, hrest, hl⟩ := slices bitmap 16 hbl
    simp only [Bool.false_eq_true, if_false, if_neg hl, h4, hbm, hdecm, hi, hrest]
  · obtain ⟨h4, hbm, hrest, hl⟩ := slices (hexlify bitmap) 32 (by rw [hexlify_length, hbl])
    simp only [if_true, if_neg hl, h4, hbm, unhexlify_hexlify bitmap hlt, hdecm, hi, hrest]

end Cardutil.Iso
