import Cardutil.Lemmas.IsoField
import Cardutil.Lemmas.Pds
/-
  Lemmas for C07: every path through the ISO8583 decoder model ends in a value or the library's
  own error; the data-dependent loops terminate within their fuel.
-/
namespace Cardutil.Iso

open Cardutil Cardutil.Py
open Cardutil.Outcome (Safe safe_ok safe_dataError safe_bind safe_catchAs ne_diverge_of_safe)

theorem pdsToDict_safe (k : IntClasses) (t : Text) : Safe ((pdsToDict k t).catchAs isValueOrStructError) :=
  safe_catchAs rfl (pdsWalk_outcome k (t.length + 1) t [] (by omega))

/-- the PDS walker never runs out of fuel: the Python loop terminates on every input -/
theorem pdsToDict_terminates (k : IntClasses) (t : Text) : pdsToDict k t ≠ .diverge :=
  ne_diverge_of_safe (pdsToDict_safe k t)

theorem iccToDict_safe (b : Bytes) : Safe ((iccToDict b).catchAs isValueOrStructError) :=
  safe_catchAs rfl (iccWalk_outcome (b.length + 1) b _ (by omega))

theorem iccToDict_terminates (b : Bytes) : iccToDict b ≠ .diverge :=
  ne_diverge_of_safe (iccToDict_safe b)

/-- the configurations C07 is stated for: every python type (string, int / long, decimal,
    datetime); the sub-structured processors sit on string-typed elements (as documented) -/
def FieldOK (f : FieldCfg) : Prop :=
  (f.proc = .icc ∨ f.proc = .pds ∨ f.proc = .de43) → f.pytype = .str

/-- the typed conversion under its handler `except (ValueError, decimal.InvalidOperation)`:
    a value or the library error, for every python type — `decimal` included -/
theorem stringToPyType_safe (env : Env) (f : FieldCfg) (t : Text) :
    Safe ((stringToPyType env f t).catchAs isConvError) := by
  fun_cases stringToPyType env f t <;> rfl

theorem fieldLength_safe (env : Env) (f : FieldCfg) (data : Bytes) : Safe (fieldLength env f data) := by
  fun_cases fieldLength env f data <;> rfl

theorem decodeIcc_safe (bit : Nat) (f : FieldCfg) (raw : Bytes) (h : f.pytype = .str) : Safe (decodeIcc bit f raw) := by
  unfold decodeIcc
  rw [h]
  exact safe_bind (iccToDict_safe raw) fun _ _ => safe_ok _

/-- the PDS and DE43 processors are given a string -/
theorem derived_safe (env : Env) (bit : Nat) (f : FieldCfg) (v : Val)
    (h : f.proc = .pds ∨ f.proc = .de43 → ∃ t, v = .str t) : Safe (derived env bit f v) := by
  unfold derived
  split
  · rename_i hp; obtain ⟨t, rfl⟩ := h (.inl hp); exact pdsToDict_safe _ _
  · rename_i hp; obtain ⟨t, rfl⟩ := h (.inr hp); exact safe_ok _
  · exact safe_ok _

theorem decodeTextField_safe (env : Env) (bit : Nat) (f : FieldCfg) (raw : Bytes) (hf : FieldOK f) :
    Safe (decodeTextField env bit f raw) := by
  fun_cases decodeTextField env bit f raw with
  | case1 => exact safe_dataError
  | case2 text =>
    refine safe_bind (stringToPyType_safe env f _) fun v hv => safe_bind (derived_safe env bit f v fun hp => ?_)
      fun _ _ => safe_ok _
    rw [stringToPyType_str env f _ (hf (.inr hp))] at hv
    exact ⟨_, (Outcome.ok.inj hv).symm⟩

theorem decodeField_safe (env : Env) (bit : Nat) (f : FieldCfg) (data : Bytes) (hf : FieldOK f) :
    Safe (decodeField env bit f data) := by
  unfold decodeField
  refine safe_bind (fieldLength_safe env f data) fun flen _ => safe_bind ?_ fun _ _ => safe_ok _
  split
  · rename_i hicc
    exact decodeIcc_safe bit f _ (hf (Or.inl (by simpa using hicc)))
  · exact decodeTextField_safe env bit f _ hf

/-- every configured element is acceptable for C07 -/
def ConfigOK (cfg : Config) : Prop := ∀ e ∈ cfg, FieldOK e.2

instance (f : FieldCfg) : Decidable (FieldOK f) := inferInstanceAs (Decidable (_ → _))

instance (cfg : Config) : Decidable (ConfigOK cfg) := inferInstanceAs (Decidable (∀ e ∈ cfg, FieldOK e.2))

theorem decodeBits_safe (env : Env) (cfg : Config) (hc : ConfigOK cfg) (bits : List Nat) (data : Bytes) (acc : Dict)
    (ptr : Nat) : Safe (decodeBits env cfg bits data acc ptr) := by
  fun_induction decodeBits env cfg bits data acc ptr with
  | case1 => exact safe_ok _
  | case2 => exact safe_dataError
  | case3 bit bits data acc ptr f hget ih =>
    exact safe_bind (decodeField_safe env bit f (data.drop ptr) (hc _ (Config.mem_of_get hget))) fun r _ => ih r

theorem decodeHeader_safe (env : Env) (hexBitmap : Bool) (msg : Bytes) : Safe (decodeHeader env hexBitmap msg) := by
  fun_cases decodeHeader env hexBitmap msg <;> rfl

theorem decodeBody_safe (env : Env) (cfg : Config) (hc : ConfigOK cfg) (mti : Text) (bitmap data : Bytes) :
    Safe (decodeBody env cfg mti bitmap data) := by
  unfold decodeBody
  refine safe_bind (decodeBits_safe env cfg hc _ _ _ _) fun r _ => ?_
  split
  · exact safe_ok _
  · exact safe_dataError

/-- C07 core: the message decoder returns a dictionary or the library error, for EVERY byte
    string, codec, bitmap rendering and acceptable configuration -/
theorem decode_safe (env : Env) (cfg : Config) (hc : ConfigOK cfg) (hexBitmap : Bool) (msg : Bytes) :
    Safe (decode env cfg hexBitmap msg) := by
  unfold decode
  exact safe_bind (decodeHeader_safe env hexBitmap msg) fun h _ => decodeBody_safe env cfg hc _ _ _

end Cardutil.Iso
