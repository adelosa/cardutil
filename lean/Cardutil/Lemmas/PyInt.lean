import Cardutil.Py.Int
/-
  `int()` on the canonical zero-padded decimal text that `format(n, '0{w}d')` produces.
-/
namespace Cardutil.Py

open Cardutil.Digits

/-- what the proofs need from the measured character classes: ASCII digits are digits with their
    value and are not stripped as whitespace (checked by `decide` on the generated table) -/
structure IntClasses.Sane (k : IntClasses) : Prop where
  digit : ∀ d, d < 10 → k.digit (48 + d) = some d
  notSpace : ∀ d, d < 10 → k.isSpace (48 + d) = false

def digitText (ds : List Nat) : Text := ds.map (48 + ·)

theorem intBody_digits {k : IntClasses} (hk : k.Sane) (ds : List Nat) (h : ∀ d ∈ ds, d < 10) (acc : Nat) (prev : Bool)
    (hne : ds ≠ [] ∨ prev = true) :
    intBody k (digitText ds) acc prev = some (ds.foldl (fun a d => 10 * a + d) acc) := by
  induction ds generalizing acc prev with
  | nil => simp [digitText, intBody, hne.resolve_left (· rfl)]
  | cons d ds ih =>
    rw [digitText, List.map_cons, intBody, hk.digit d (h d List.mem_cons_self)]
    exact ih (fun x hx => h x (List.mem_cons_of_mem _ hx)) _ true (Or.inr rfl)

theorem strip_of_no_space {p : Nat → Bool} {t : Text} (h : ∀ c ∈ t, p c = false) :
    dropWhileEnd p (t.dropWhile p) = t := by
  have hd : ∀ l : Text, (∀ c ∈ l, p c = false) → l.dropWhile p = l := by
    intro l hl
    cases l with
    | nil => rfl
    | cons c cs => exact List.dropWhile_cons_of_neg (by simp [hl c (by simp)])
  rw [hd t h, dropWhileEnd, hd _ (fun c hc => h c (List.mem_reverse.mp hc)), List.reverse_reverse]

/-- `int()` of a non-empty all-digit text is the value of the digits -/
theorem pyInt_digits {k : IntClasses} (hk : k.Sane) (ds : List Nat) (h : ∀ d ∈ ds, d < 10) (hne : ds ≠ []) :
    pyInt k (digitText ds) = some (Int.ofNat (fromDigits 10 ds)) := by
  have hstrip : dropWhileEnd k.isSpace ((digitText ds).dropWhile k.isSpace) = digitText ds :=
    strip_of_no_space fun c hc => by
      obtain ⟨d, hd, rfl⟩ := List.mem_map.mp hc
      exact hk.notSpace d (h d hd)
  have hbody := intBody_digits hk ds h 0 false (Or.inl hne)
  obtain ⟨d, rest, rfl⟩ := List.exists_cons_of_ne_nil hne
  -- no sign: the first character is a digit, `48 + d`
  have h48 : ∀ {c}, 48 + d = c → 48 ≤ c := fun e => e ▸ Nat.le_add_right 48 d
  rw [pyInt, hstrip]
  rw [digitText, List.map_cons] at hbody ⊢
  split
  · rename_i heq; cases heq
  · rename_i heq; exact absurd (h48 (List.cons.inj heq).1) (by decide)
  · rename_i heq; exact absurd (h48 (List.cons.inj heq).1) (by decide)
  · rw [hbody]; rfl

theorem fmtNat_eq {w n : Nat} (hw : 0 < w) (hn : n < 10 ^ w) : fmtNat w n = digitText (toDigits 10 w n) :=
  if_pos ⟨hw, hn⟩

theorem fmtInt_ofNat_eq {w n : Nat} (hw : 0 < w) (hn : n < 10 ^ w) :
    fmtInt w (Int.ofNat n) = digitText (toDigits 10 w n) := fmtNat_eq hw hn

/-- the length prefix round trip: `int(format(n, '0{w}d')) = n` for `n < 10^w`, `w ≥ 1` -/
theorem pyInt_fmtNat {k : IntClasses} (hk : k.Sane) (w n : Nat) (hw : 0 < w) (hn : n < 10 ^ w) :
    pyInt k (fmtNat w n) = some (Int.ofNat n) := by
  rw [fmtNat_eq hw hn, pyInt_digits hk _ (toDigits_lt (by decide) w n) (by
    intro h0; have := length_toDigits 10 w n; rw [h0] at this; exact absurd this.symm (Nat.ne_of_gt hw)),
    fromDigits_toDigits w n hn]

theorem fmtNat_length (w n : Nat) (hw : 0 < w) (hn : n < 10 ^ w) : (fmtNat w n).length = w := by
  rw [fmtNat_eq hw hn, digitText, List.length_map, length_toDigits]

theorem fmtNat_ne_nil {w : Nat} (hw : 0 < w) (n : Nat) : fmtNat w n ≠ [] := by
  unfold fmtNat
  split
  · exact fun h => Nat.ne_of_gt hw (by simpa using congrArg List.length h)
  · rw [natDigits]; split <;> simp

theorem asciiClasses_sane : asciiClasses.Sane := ⟨by decide, by decide⟩

end Cardutil.Py
