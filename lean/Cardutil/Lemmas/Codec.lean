import Cardutil.Py.Codec
import Cardutil.Lemmas.Table
/-
  Table-driven codecs (`Codec.ofTables`): the laws the property theorems ask of a codec, each reduced to a check
  on the tables that the kernel evaluates in one pass.  `Lawful` (decoding undoes encoding) is here; the converse law,
  `Codec.Inverse`, is defined with the property that needs it and reduced to the same check there
  (`inverse_of_tables`, Props/C19.lean).
-/
namespace Cardutil.Py.Codec

open Cardutil.Table

/-- a table entry as a digit for `pack`: `none` is 0 -/
def code : Option Nat → Nat
  | none => 0
  | some v => v + 1

/-- wherever `f[x] = some y`, `g[y] = some x`, in one pass over `f`.  `g[y]?` under kernel evaluation walks the list, so
    `g` is read out of one number (`pack`, Lemmas/Table.lean) by a division; `B` is any bound above every entry's `code`
    (257 for tables of bytes) -/
def inverts (B : Nat) (f g : Array (Option Nat)) : Bool :=
  (g.toList.map code).all (· < B) &&
  f.toList.zipIdx.all fun ox => match ox.1 with
    | some y => pack B (g.toList.map code) / B ^ y % B == ox.2 + 1
    | none => true

theorem inverts_spec {B : Nat} {f g : Array (Option Nat)} (h : inverts B f g = true) {x y : Nat}
    (hf : (f[x]?).join = some y) : (g[y]?).join = some x := by
  simp only [inverts, Bool.and_eq_true, List.all_eq_true, decide_eq_true_eq] at h
  have hx : f.toList[x]? = some (some y) := by rw [Array.getElem?_toList]; exact Option.join_eq_some_iff.mp hf
  have h2 := all_zipIdx (p := fun i (o : Option Nat) => match o with
    | some y => pack B (g.toList.map code) / B ^ y % B == i + 1
    | none => true) (List.all_eq_true.mpr h.2) hx
  simp only [beq_iff_eq] at h2
  rw [pack_getD h.1, List.getD_eq_getElem?_getD, List.getElem?_map, Array.getElem?_toList] at h2
  -- `code` of the entry is `x + 1`: the entry is `some x`
  generalize g[y]? = o at h2 ⊢
  rcases o with _ | _ | v
  · cases h2
  · cases h2
  · exact congrArg some (Nat.succ.inj h2)

theorem lawful_of_tables {B : Nat} {dec encLow : Array (Option Nat)} {encHigh : List (Nat × Nat)}
    (h : inverts B encLow dec = true) (hh : encHigh.all (fun e => (dec[e.2]?).join == some e.1) = true) :
    (ofTables dec encLow encHigh).Lawful := by
  intro ch b he
  simp only [ofTables] at he ⊢
  split at he
  · exact inverts_spec h he
  · cases hf : encHigh.find? (·.1 == ch) with
    | none => simp [hf] at he
    | some e =>
      simp only [hf, Option.map_some, Option.some.injEq] at he
      have := List.all_eq_true.mp hh e (List.mem_of_find?_eq_some hf)
      have hkey := List.find?_some hf
      simp only [beq_iff_eq] at this hkey
      rw [← he, this, hkey]

/-- the characters `lo .. lo+n-1` (below 256) can be encoded: read off one slice of the table, so that the kernel
    neither walks to each entry in turn nor measures the table -/
theorem enc_slice (dec : Array (Option Nat)) {encLow : Array (Option Nat)} (encHigh : List (Nat × Nat)) {lo n : Nat}
    (h : ((encLow.toList.drop lo).take n).all Option.isSome = true) (hlen : ((encLow.toList.drop lo).take n).length = n)
    (h256 : lo + n ≤ 256) {d : Nat} (hd : d < n) : ∃ b, (ofTables dec encLow encHigh).enc (lo + d) = some b := by
  have hd' : d < ((encLow.toList.drop lo).take n).length := hlen.symm ▸ hd
  have hs := List.all_eq_true.mp h _ (List.getElem_mem hd')
  rw [List.getElem_take, List.getElem_drop, Array.getElem_toList] at hs
  have hlt : lo + d < encLow.size := by
    have := List.length_take_le' n (encLow.toList.drop lo)
    rw [hlen, List.length_drop, Array.length_toList] at this
    exact Nat.add_lt_of_lt_sub' (Nat.lt_of_lt_of_le hd this)
  simp only [ofTables, if_pos (Nat.lt_of_lt_of_le (Nat.add_lt_add_left hd lo) h256), Array.getElem?_eq_getElem hlt,
    Option.join_some]
  exact Option.isSome_iff_exists.mp hs

/-- every byte decodes, as the sweep in which `latin1_total` and its likes (Props/C19.lean) state it -/
theorem dec_total {dec : Array (Option Nat)} (encLow : Array (Option Nat)) (encHigh : List (Nat × Nat)) {n : Nat}
    (h : dec.toList.all Option.isSome = true) (hn : n ≤ dec.size) :
    (List.range n).all (fun x => ((ofTables dec encLow encHigh).dec x).isSome) = true := by
  rw [List.all_eq_true]
  intro x hx
  have hx : x < dec.size := Nat.lt_of_lt_of_le (List.mem_range.mp hx) hn
  simp only [ofTables, Array.getElem?_eq_getElem hx, Option.join_some]
  exact List.all_eq_true.mp h _ (by simp)

/-- the converse law (`Props.C19.Codec.Inverse`): what decodes to a character is what the character encodes to -/
theorem inverse_of_tables {B : Nat} {dec encLow : Array (Option Nat)} {encHigh : List (Nat × Nat)}
    (h : inverts B dec encLow = true) (hs : encLow.size ≤ 256) :
    ∀ x ch, (ofTables dec encLow encHigh).dec x = some ch → (ofTables dec encLow encHigh).enc ch = some x := by
  intro x ch hd
  have he := inverts_spec h hd
  have hlt : ch < 256 := by
    refine Nat.lt_of_lt_of_le ?_ hs
    cases hg : encLow[ch]? with
    | none => simp [hg] at he
    | some _ => exact (Array.getElem?_eq_some_iff.mp hg).1
  simp only [ofTables, hlt, if_true]
  exact he

end Cardutil.Py.Codec
