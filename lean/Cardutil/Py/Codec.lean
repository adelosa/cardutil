import Cardutil.Basic
/-
  Python semantics layer: single-byte text codecs as two tables (generated in Gen/Codecs.lean from
  the live interpreter: `bytes([b]).decode(name)` and `chr(cp).encode(name)`).
-/
namespace Cardutil.Py

structure Codec where
  dec : Nat → Option Nat     -- byte → code point; `none`: UnicodeDecodeError
  enc : Nat → Option Nat     -- code point → byte; `none`: UnicodeEncodeError

namespace Codec

def decode (c : Codec) (b : Bytes) : Option Text := b.mapM c.dec
def encode (c : Codec) (t : Text) : Option Bytes := t.mapM c.enc

/-- what a round trip needs: a character that encodes decodes back to itself -/
def Lawful (c : Codec) : Prop := ∀ ch b, c.enc ch = some b → c.dec b = some ch

theorem decode_encode {c : Codec} (h : c.Lawful) {t : Text} {b : Bytes} (he : c.encode t = some b) :
    c.decode b = some t := mapM_inverse h he

theorem encode_length {c : Codec} {t : Text} {b : Bytes} (he : c.encode t = some b) : b.length = t.length :=
  mapM_length he

theorem encode_append {c : Codec} {a b : Text} {x y : Bytes} (ha : c.encode a = some x) (hb : c.encode b = some y) :
    c.encode (a ++ b) = some (x ++ y) := mapM_append_some ha hb

/-- table-driven codec: 256-entry decode table; encode table for code points below 256 plus an
    association list for the (few) higher code points -/
def ofTables (decTbl : Array (Option Nat)) (encLow : Array (Option Nat)) (encHigh : List (Nat × Nat)) : Codec where
  dec := fun b => (decTbl[b]?).join
  enc := fun ch => if ch < 256 then (encLow[ch]?).join else (encHigh.find? (·.1 == ch)).map (·.2)

end Codec
end Cardutil.Py
