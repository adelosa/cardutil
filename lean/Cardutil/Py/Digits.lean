import Cardutil.Basic
/-
  Python semantics layer: fixed-width positional digits in a base `b`.
  Models `format(n, '0{w}d')` / `f'{n:0{w}x}'` (for `n < b^w`), `int(s)` / `int(s, 16)` on plain digit
  strings, `int.to_bytes(w, 'big')` / `int.from_bytes(.., 'big')` (base 256).
-/
namespace Cardutil.Digits

/-- the `w` least significant base-`b` digits of `n`, most significant first -/
def toDigits (b : Nat) : Nat → Nat → List Nat
  | 0, _ => []
  | w + 1, n => toDigits b w (n / b) ++ [n % b]

/-- value of a digit list, most significant first -/
def fromDigits (b : Nat) (ds : List Nat) : Nat := ds.foldl (fun a d => b * a + d) 0

@[simp] theorem length_toDigits (b w n : Nat) : (toDigits b w n).length = w := by
  fun_induction toDigits b w n <;> simp [*]

theorem toDigits_lt {b : Nat} (hb : 0 < b) (w n : Nat) : ∀ d ∈ toDigits b w n, d < b := by
  fun_induction toDigits b w n with
  | case1 => simp
  | case2 w n ih =>
    intro d hd
    rcases List.mem_append.mp hd with h | h
    · exact ih d h
    · exact List.mem_singleton.mp h ▸ Nat.mod_lt _ hb

theorem toDigits_zero (b w : Nat) : toDigits b w 0 = List.replicate w 0 := by
  induction w with
  | zero => rfl
  | succ w ih => rw [toDigits, Nat.zero_div, ih, Nat.zero_mod, List.replicate_succ']

theorem fromDigits_append (b : Nat) (ds : List Nat) (x : Nat) :
    fromDigits b (ds ++ [x]) = b * fromDigits b ds + x := by
  simp [fromDigits, List.foldl_append]

/-- the fold started at `a`, i.e. after a prefix of value `a`: the digits of `l` are added to `a` shifted by their number -/
theorem foldl_digits (b : Nat) (l : List Nat) (a : Nat) :
    l.foldl (fun a d => b * a + d) a = a * b ^ l.length + fromDigits b l := by
  induction l using rev_induction with
  | nil => simp [fromDigits]
  | append_singleton l x ih =>
    rw [fromDigits_append, List.foldl_append, List.foldl_cons, List.foldl_nil, ih, List.length_append,
      List.length_singleton, Nat.pow_succ', Nat.mul_add, Nat.mul_left_comm, Nat.add_assoc]

theorem fromDigits_cons (b d : Nat) (ds : List Nat) : fromDigits b (d :: ds) = d * b ^ ds.length + fromDigits b ds := by
  rw [fromDigits, List.foldl_cons, foldl_digits, Nat.mul_zero, Nat.zero_add]

theorem fromDigits_nil (b : Nat) : fromDigits b [] = 0 := rfl

/-- encode then decode: `int(format(n, '0{w}d')) = n` for `n < b^w` -/
theorem fromDigits_toDigits {b : Nat} (w n : Nat) (h : n < b ^ w) :
    fromDigits b (toDigits b w n) = n := by
  fun_induction toDigits b w n with
  | case1 => simp [fromDigits] at *; omega
  | case2 w n ih =>
    have hb : 0 < b := by
      rcases Nat.eq_zero_or_pos b with h0 | h0
      · subst h0; simp [Nat.pow_succ] at h
      · exact h0
    rw [fromDigits_append, ih]
    · exact Nat.div_add_mod n b
    · rw [Nat.pow_succ] at h
      exact Nat.div_lt_of_lt_mul (by rw [Nat.mul_comm]; exact h)

theorem fromDigits_lt {b : Nat} (ds : List Nat) (h : ∀ d ∈ ds, d < b) :
    fromDigits b ds < b ^ ds.length := by
  induction ds using rev_induction with
  | nil => simp [fromDigits]
  | append_singleton ds x ih =>
    have hx : x < b := h x (List.mem_append_right _ (List.mem_singleton_self x))
    have := ih (fun d hd => h d (List.mem_append_left _ hd))
    rw [fromDigits_append, List.length_append, List.length_singleton, Nat.pow_succ, Nat.mul_comm (b ^ ds.length)]
    have h1 : b * fromDigits b ds + x < b * (fromDigits b ds + 1) := by
      rw [Nat.mul_add, Nat.mul_one]; exact Nat.add_lt_add_left hx _
    exact Nat.lt_of_lt_of_le h1 (Nat.mul_le_mul_left b this)

/-- two places: the leading digits decide, unless equal -/
theorem place_lt {B x y u v : Nat} (hu : u < B) (hv : v < B) : x * B + u < y * B + v ↔ x < y ∨ x = y ∧ u < v := by
  have key : ∀ {x y u v : Nat}, x < y → u < B → x * B + u < y * B + v := fun h hu =>
    Nat.lt_of_lt_of_le (Nat.add_lt_add_left hu _) (Nat.le_add_right_of_le (Nat.succ_mul _ _ ▸ Nat.mul_le_mul_right B h))
  rcases Nat.lt_trichotomy x y with h | rfl | h
  · exact iff_of_true (key h hu) (.inl h)
  · exact Nat.add_lt_add_iff_left.trans (by simp)
  · exact iff_of_false (Nat.lt_asymm (key h hv)) fun h' => h'.elim (Nat.lt_asymm h) fun e => Nat.ne_of_gt h e.1

/-- decode then encode: a `w`-digit string is reproduced exactly (leading zeros included) -/
theorem toDigits_fromDigits {b : Nat} (ds : List Nat) (h : ∀ d ∈ ds, d < b) :
    toDigits b ds.length (fromDigits b ds) = ds := by
  induction ds using rev_induction with
  | nil => rfl
  | append_singleton ds x ih =>
    have hx : x < b := h x (by simp)
    have hb : 0 < b := by omega
    have := ih (fun d hd => h d (by simp [hd]))
    rw [List.length_append, List.length_singleton, toDigits, fromDigits_append]
    have h1 : (b * fromDigits b ds + x) / b = fromDigits b ds := by
      rw [Nat.mul_add_div hb, Nat.div_eq_of_lt hx]; simp
    have h2 : (b * fromDigits b ds + x) % b = x := by
      rw [Nat.mul_add_mod]; exact Nat.mod_eq_of_lt hx
    rw [h1, h2, this]

theorem toDigits_fromDigits_of_length {b w : Nat} {ds : List Nat} (h : ∀ d ∈ ds, d < b) (hl : ds.length = w) :
    toDigits b w (fromDigits b ds) = ds :=
  hl ▸ toDigits_fromDigits ds h

theorem toDigits_add (b w v n : Nat) :
    toDigits b (w + v) n = toDigits b w (n / b ^ v) ++ toDigits b v (n % b ^ v) := by
  induction v generalizing n with
  | zero => simp [toDigits]
  | succ v ih =>
    rw [← Nat.add_assoc, toDigits, toDigits, ih, List.append_assoc, Nat.pow_succ, Nat.mul_comm,
      Nat.div_div_eq_div_mul, Nat.mod_mul_right_div_self, Nat.mod_mul_right_mod]

theorem toDigits_eq_map_range (b w n : Nat) :
    toDigits b w n = (List.range w).map (fun i => n / b ^ (w - 1 - i) % b) := by
  fun_induction toDigits b w n with
  | case1 => rfl
  | case2 w n ih =>
    rw [ih, List.range_succ, List.map_append]
    congr 1
    · apply List.map_congr_left
      intro i hi
      have hi := List.mem_range.mp hi
      rw [Nat.div_div_eq_div_mul, ← Nat.pow_succ', Nat.succ_sub_one, Nat.sub_right_comm,
        Nat.succ_eq_add_one, Nat.sub_add_cancel (Nat.sub_pos_of_lt hi)]
    · simp

theorem toDigits_pow (b k w n : Nat) :
    toDigits b (k * w) n = (toDigits (b ^ k) w n).flatMap (toDigits b k) := by
  induction w generalizing n with
  | zero => rfl
  | succ w ih => rw [Nat.mul_succ, toDigits_add, ih, toDigits, List.flatMap_append]; simp

theorem toDigits_fromDigits_pow {b : Nat} (k : Nat) (ds : List Nat) (h : ∀ d ∈ ds, d < b ^ k) :
    toDigits b (k * ds.length) (fromDigits (b ^ k) ds) = ds.flatMap (toDigits b k) := by
  rw [toDigits_pow, toDigits_fromDigits ds h]

/-- a function that undoes the expansion of base-`b ^ k` digits IS the regrouping (`unhexlify`, `BitArray.fromlist`) -/
theorem packing_eq_toDigits {b k : Nat} (P : List Nat → List Nat)
    (hP : ∀ B : List Nat, (∀ x ∈ B, x < b ^ k) → P (B.flatMap (toDigits b k)) = B) (hb : 0 < b)
    {ds : List Nat} {n : Nat} (h : ∀ d ∈ ds, d < b) (hl : ds.length = k * n) :
    P ds = toDigits (b ^ k) n (fromDigits b ds) := by
  have := hP (toDigits (b ^ k) n (fromDigits b ds)) (toDigits_lt (Nat.pow_pos hb) _ _)
  rwa [← toDigits_pow, ← hl, toDigits_fromDigits ds h] at this

theorem toDigits_xor (k w x y : Nat) :
    toDigits (2 ^ k) w (x ^^^ y) = List.zipWith (· ^^^ ·) (toDigits (2 ^ k) w x) (toDigits (2 ^ k) w y) := by
  induction w generalizing x y with
  | zero => rfl
  | succ w ih =>
    rw [toDigits, toDigits, toDigits, Nat.xor_div_two_pow, Nat.xor_mod_two_pow, ih,
      List.zipWith_append (by rw [length_toDigits, length_toDigits])]
    rfl

end Cardutil.Digits
