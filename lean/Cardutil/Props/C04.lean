import Cardutil.Lemmas.Block
/-
  C04 — 1014 blocking: output is well-formed and data-exact for every write sequence.

  `Block.stream P ws` is the model of: a fresh `Block1014` on an empty file, one `write` per
  element of `ws` (any chunking, any lengths, empty writes included), then `finalise`.
  `Block.blockify P d` is the model of the one-shot `block_1014`.
  All statements are for every history `ws : List Bytes`, no bound on lengths or counts.
  The forms for any positive payload size are `Block.stream_*` (Lemmas/Block.lean) and
  `unblock_stream`; the `C04_*` theorems are at the code's constant, `P = 1012` (block = 1014 bytes).
-/
namespace Cardutil.Props.C04

open Cardutil Cardutil.Block

/-- the validating unblocker inverts both blockers up to fill -/
theorem unblock_stream {P : Nat} (hP : 0 < P) (ws : List Bytes) :
    ∃ k, k < 2 * P ∧ unblock P (stream P ws) = some (ws.flatten ++ List.replicate k padByte) := by
  obtain ⟨k, hk, hp⟩ := stream_payloads hP ws
  exact ⟨k, by omega, by rw [unblock_eq, stream_wellBlocked hP ws, hp]; rfl⟩

/-- C04(a): a whole number of 1014-byte blocks. -/
theorem C04_whole_blocks (ws : List Bytes) : (stream 1012 ws).length % 1014 = 0 :=
  stream_length (P := 1012) (by decide) ws

/-- C04(b): every block ends in two 0x40 bytes (and there is no short block). -/
theorem C04_trailers (ws : List Bytes) : wellBlocked 1012 (stream 1012 ws) = true :=
  stream_wellBlocked (P := 1012) (by decide) ws

/-- C04(c): payloads concatenated = the bytes written, in order, then only 0x40 fill;
    nothing dropped, duplicated or moved (content is universally quantified). -/
theorem C04_payloads (ws : List Bytes) :
    ∃ k, k < 2024 ∧ payloads 1012 (stream 1012 ws) = ws.flatten ++ List.replicate k padByte :=
  let ⟨k, hk, hp⟩ := stream_payloads (P := 1012) (by decide) ws
  ⟨k, by omega, hp⟩

/-- C04(d): streaming and one-shot blocker agree apart from one optional trailing all-fill
    block; hence at most one block holds fill only. -/
theorem C04_stream_vs_oneshot (ws : List Bytes) :
    stream 1012 ws = blockify 1012 ws.flatten ∨
    stream 1012 ws = blockify 1012 ws.flatten ++ fillBlock 1012 := by
  rw [stream_eq (P := 1012) (by decide)]
  split
  · exact Or.inr rfl
  · exact Or.inl (List.append_nil _)

/-- C04(e): block structure made explicit. -/
theorem C04_blocks (ws : List Bytes) :
    ∃ extra : List Bytes, (extra = [] ∨ extra = [fillBlock 1012]) ∧
      stream 1012 ws = ((chunks 1012 ws.flatten).map (mkBlock 1012) ++ extra).flatten ∧
      Blocks 1012 ((chunks 1012 ws.flatten).map (mkBlock 1012) ++ extra) :=
  stream_blocks (P := 1012) (by decide) ws

/-- the one-shot blocker alone: well-formed, data-exact, fill < one block -/
theorem C04_oneshot (d : Bytes) :
    wellBlocked 1012 (blockify 1012 d) = true ∧
    ∃ k, k < 1012 ∧ payloads 1012 (blockify 1012 d) = d ++ List.replicate k padByte := by
  obtain ⟨k, hk, _, hp⟩ := payloads_blockify (P := 1012) (by decide) d
  exact ⟨wellBlocked_blockify (by decide) d, k, hk, hp⟩

-- sanity test (evaluated, not a theorem): a three-write history with an empty write that ends
-- in the "trailer pending" situation; the theorems above have no hypotheses, so vacuity is not
-- a concern.
#guard stream 3 [[1, 2], [], [3, 4, 5, 6]] == [1, 2, 3, 64, 64, 4, 5, 6, 64, 64]
#guard stream 3 [[1, 2, 3]] == [1, 2, 3, 64, 64, 64, 64, 64, 64, 64]

end Cardutil.Props.C04
