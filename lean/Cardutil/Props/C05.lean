import Cardutil.Lemmas.Vbs
/-
  C05 — 1014 unblocking: reads return the exact payload stream for every read sequence.

  `Unblock.runReads P ⟨file, []⟩ ns` models a fresh `Unblock1014(file)` receiving the read history
  `ns` (`some n` = `read(n)` with `n > 0`; `none` = `read()` / `read(0)`, "no size").
  `payloads P file` is the payload stream: the first `P` bytes of every `P+2`-byte block (a short
  last block contributes what it has).  No bound on file size, history length or read sizes.
-/
namespace Cardutil.Props.C05

open Cardutil Cardutil.Block Cardutil.Unblock

/-- C05(a): every history of reads returns the successive slices of the payload stream: a sized
    read gives exactly the requested number of bytes or all that remain; a read with no size gives
    everything that remains (and later reads give nothing). Any file content, well-formed or not. -/
theorem C05_reads (file : Bytes) (ns : List (Option Nat)) :
    runReads 1012 ⟨file, []⟩ ns = specReads (payloads 1012 file) ns :=
  runReads_spec 1012 ⟨file, []⟩ ns

/-- the same from any intermediate unblocker state (buffer + unread file) -/
theorem C05_reads_any_state (s : St) (ns : List (Option Nat)) :
    runReads 1012 s ns = specReads (remaining 1012 s) ns :=
  runReads_spec 1012 s ns

/-- C05(b): record reading from a blocked file yields the same records, the same ending and the
    same error context as reading the equivalent unblocked stream (its payload stream). -/
theorem C05_records (maxLen fuel : Nat) (file : Bytes) :
    Vbs.readAll (unblockSrc 1012) maxLen fuel (Vbs.init ⟨file, []⟩) =
      Vbs.readAll plainSrc maxLen fuel (Vbs.init (payloads 1012 file)) :=
  Vbs.readAll_unblock 1012 maxLen fuel ⟨file, []⟩ 1 none

/-- C05(c): the validating one-shot unblocker succeeds exactly on a whole number of blocks with
    correct trailers, and then returns the payload stream. -/
theorem C05_unblock_iff (f : Bytes) :
    unblock 1012 f = if wellBlocked 1012 f then some (payloads 1012 f) else none :=
  unblock_eq 1012 f

/-- C05(d): it inverts the one-shot blocker up to 0x40 fill … -/
theorem C05_unblock_block (d : Bytes) :
    ∃ k, k < 1012 ∧ unblock 1012 (blockify 1012 d) = some (d ++ List.replicate k padByte) := by
  obtain ⟨k, hk, _, hp⟩ := payloads_blockify (P := 1012) (by decide) d
  exact ⟨k, hk, by rw [unblock_eq, wellBlocked_blockify (P := 1012) (by decide), hp]; rfl⟩

/-- … and refuses a truncated input (not a whole number of blocks): any non-empty input shorter
    than one block, and more generally any input whose last block is short. -/
theorem C05_unblock_refuses_short (bs : List Bytes) (hb : Blocks 1012 bs) (t : Bytes)
    (h0 : t ≠ []) (h1 : t.length < 1014) : unblock 1012 (bs.flatten ++ t) = none := by
  rw [unblock_blocks_append hb, unblock, if_neg (by simpa using h0), if_pos h1]; rfl

/-- … and an input one of whose blocks has a wrong trailer. -/
theorem C05_unblock_refuses_trailer (pre : List Bytes) (hb : Blocks 1012 pre) (b : Bytes) (rest : Bytes)
    (hl : b.length = 1014) (hbad : b.drop 1012 ≠ PP) : unblock 1012 (pre.flatten ++ (b ++ rest)) = none := by
  rw [unblock_blocks_append hb, unblock_eq, wellBlocked_cons _ hl, beq_false_of_ne hbad]; rfl

-- sanity tests (evaluated): two blocks of P=3, reads 2, 2, none
#guard runReads 3 ⟨[1, 2, 3, 64, 64, 4, 5, 6, 64, 64], []⟩ [some 2, some 2, none] == [[1, 2], [3, 4], [5, 6]]
#guard unblock 3 [1, 2, 3, 64, 64, 4, 5, 6, 64, 65] == none

end Cardutil.Props.C05
