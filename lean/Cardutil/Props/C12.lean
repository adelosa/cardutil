import Cardutil.Lemmas.Pds
import Cardutil.Lemmas.Sort
/-
  C12 — PDS sub-elements are packed into carrier elements and recovered without loss.

  `ents : List (Text × Text)` are the sub-elements (4-character tag, value) in the order the
  encoder visits them (sorted by key).  `pdsPack (ents.map entry) []` is the list of carrier
  strings `_pds_to_de` produces; `assignCarriers` hands them to the carrier elements in ascending
  order; `pdsToDict` is the walk `_pds_to_dict` performs on each carrier when decoding.
  No bound on the number of sub-elements or carriers.
-/
namespace Cardutil.Props.C12

open Cardutil Cardutil.Iso Cardutil.Py Cardutil.Digits

/-- the text of one sub-element: tag(4) length(3) value -/
def entry (e : Text × Text) : Text := entryOf e.1 e.2

/-- the property's domain: 4-character tags, values of 0..992 characters -/
def WF (ents : List (Text × Text)) : Prop := ∀ e ∈ ents, e.1.length = 4 ∧ e.2.length ≤ 992

/-- C12: the text of an entry as the encoder writes it (`pdsEntry_digits`) -/
theorem C12_entry_format (ds : List Nat) (hd : ∀ d ∈ ds, d < 10) (hl : ds.length = 4) (v : Text) :
    pdsEntry (Int.ofNat (fromDigits 10 ds)) v = entryOf (digitText ds) v :=
  pdsEntry_digits ds hd hl v

/-- C12(a): the carrier strings, concatenated, are the sub-elements in encoder order, each as
    tag(4) length(3) value — nothing dropped, duplicated or moved -/
theorem C12_content (ents : List (Text × Text)) :
    (pdsPack (ents.map entry) []).flatten = (ents.map entry).flatten := by
  rw [pdsPack_flatten]; rfl

/-- C12(b): every carrier string holds at most 999 characters -/
theorem C12_capacity (ents : List (Text × Text)) (h : WF ents) : ∀ c ∈ pdsPack (ents.map entry) [], c.length ≤ 999 :=
  pdsPack_le _ _ (by simp) (List.forall_mem_map.mpr fun e he => entryP_le (h e he))

/-- C12(c): no sub-element is split between carriers, and packing is greedy: the carrier strings
    are concatenations of WHOLE entries, the groups in order are exactly the entries in order, and
    a carrier is closed only when the next entry would not fit in 999 characters -/
theorem C12_whole_entries_greedy (ents : List (Text × Text)) (h : WF ents) :
    ∃ groups : List (List Text),
      pdsPack (ents.map entry) [] = groups.map List.flatten ∧
      groups.flatten = ents.map entry ∧
      (∀ g ∈ groups, g ≠ []) ∧
      GreedyChain groups := by
  have hle : ∀ e ∈ ents, (entryP e).length ≤ 999 := fun e he => entryP_le (h e he)
  refine ⟨(pdsPackP ents []).map (List.map entryP), ?_, ?_, ?_, pdsPackP_greedy _ _⟩
  · rw [List.map_map]
    exact pdsPack_pairs ents []
  · rw [← List.map_flatten, pdsPackP_flatten]; rfl
  · intro g hg
    obtain ⟨grp, hgrp, rfl⟩ := List.mem_map.mp hg
    exact fun h0 => pdsPackP_ne ents [] hle grp hgrp (List.map_eq_nil_iff.mp h0)

/-- C12(d): the packed strings go to the carrier elements in ascending element order: the i-th
    string becomes the value of the i-th carrier (overriding any value supplied for it), and the
    other entries of the message are untouched -/
theorem C12_assign (carriers : List Nat) (chunks : List Text) (m : Dict) (hlen : chunks.length ≤ carriers.length)
    (hnd : carriers.Nodup) :
    ∃ m', assignCarriers carriers chunks m = .ok m' ∧
      (∀ i (hi : i < chunks.length), Dict.get m' (.de (carriers[i]'(by omega))) = some (.str chunks[i])) ∧
      (∀ k, (∀ i (hi : i < chunks.length), k ≠ .de (carriers[i]'(by omega))) → Dict.get m' k = Dict.get m k) := by
  obtain ⟨m', hm', hget, hother⟩ := assignCarriers_zip carriers chunks m hlen hnd
  refine ⟨m', hm', fun i hi => ?_, fun k hk => hother k fun a ha => ?_⟩
  · have := hget _ (List.getElem_mem (l := carriers.zip chunks) (n := i)
      (by rw [List.length_zip]; exact Nat.lt_min.mpr ⟨Nat.lt_of_lt_of_le hi hlen, hi⟩))
    rwa [List.getElem_zip] at this
  · obtain ⟨i, hi, rfl⟩ := List.mem_iff_getElem.mp ha
    rw [List.length_zip] at hi
    rw [List.getElem_zip]
    exact hk i (Nat.lt_of_lt_of_le hi (Nat.min_le_right ..))

/-- C12(e): decoding a carrier that holds whole sub-elements returns exactly those sub-elements;
    with pairwise different tags every `PDSxxxx` entry reads back its own value, unchanged —
    zero-length values and values that look like tag/length headers included (values are
    arbitrary texts) -/
theorem C12_recover {k : IntClasses} (hk : k.Sane) (group : List (Text × Text)) (h : WF group)
    (hnd : (group.map (·.1)).Nodup) :
    ∃ d, pdsToDict k (group.map entry).flatten = .ok d ∧
      ∀ e ∈ group, Dict.get d (.pds e.1) = some (.str e.2) := by
  exact ⟨_, pdsToDict_entries hk group h, groupDict_get group hnd⟩

/-- C12(f): the encoder visits the sub-elements in ASCENDING tag order, whatever the insertion
    order of the keys in the message: the list it packs is ordered by the key text (Python's
    string order), which for 4-digit tags is the numeric order of the tags; and it is a
    permutation of the message's PDS entries (none lost, none invented) -/
theorem C12_ascending_order (m : Dict) :
    SortedByKey (sortPds (pdsEntriesOf m)) ∧ (sortPds (pdsEntriesOf m)).Perm (pdsEntriesOf m) :=
  ⟨sortPds_sorted _, sortPds_perm _⟩

theorem C12_tag_order_numeric (a b : List Nat) (ha : a.length = 4) (hb : b.length = 4)
    (hda : ∀ d ∈ a, d < 10) (hdb : ∀ d ∈ b, d < 10) :
    textLt (digitText a) (digitText b) = true ↔ fromDigits 10 a < fromDigits 10 b :=
  textLt_digits a b (by rw [ha, hb]) hda hdb

/-- non-vacuity: two sub-elements (one empty, one that looks like a header) in the domain -/
example : WF [([48,48,50,51], []), ([48,49,52,56], [48,48,48,49,48,48,51])] := by
  intro e he
  simp at he
  rcases he with rfl | rfl <;> simp

-- sanity tests (evaluated): the 999 threshold — 7+492 + 7+493 = 999 fits in one carrier, one more character does not
#guard (pdsPack [entryOf [48,48,48,49] (List.replicate 492 65), entryOf [48,48,48,50] (List.replicate 493 66)] []).length == 1
#guard (pdsPack [entryOf [48,48,48,49] (List.replicate 492 65), entryOf [48,48,48,50] (List.replicate 494 66)] []).length == 2

end Cardutil.Props.C12
