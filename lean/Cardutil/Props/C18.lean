import Cardutil.Model.Param
import Cardutil.Lemmas.Param
/-
  C18 — parameter extraction returns exactly the requested table's rows and columns.

  `Param.read` is the model of `list(IpmParamReader(file, table_id, …))` over the record list the
  VBS layer delivers.  The statements below say that the two-phase scan IS the declarative
  filter/project specification, for every record list (no bound on rows, tables or interleaving),
  every column layout and every codec.
-/
namespace Cardutil.Props.C18

open Cardutil Cardutil.Py Cardutil.Param

/-- declarative specification of the rows of `table` among the data records:
    keep the records whose table id (looked up through the index for compressed rows, read from
    the record for expanded rows) is the requested one, project the configured columns -/
def specRows (f : Bytes → Option Row) (recs : List Bytes) : List Row := recs.filterMap f

/-- C18(a): if every data record evaluates without a decoding error — to "row `x`" or "not this
    table" — the reader returns exactly the filter/projection of the records, in file order, and
    ends the way the VBS layer ended. -/
theorem C18_rows_eq_spec (c : Codec) (cols : List (Nat × Nat)) (table : Text) (expanded : Bool) (ix : Index)
    (last : PEnd) (f : Bytes → Option Row) (recs : List Bytes)
    (h : ∀ r ∈ recs, rowOf c cols table expanded ix r = .ok (f r)) :
    rowsOf c cols table expanded ix last recs = (specRows f recs, last) := by
  simpa [rowsOf, specRows] using rowsOf_append c cols table expanded ix last f recs [] h

/-- every byte decodable (true of latin_1, cp500, cp037 on all 256 bytes) -/
def Decodable (c : Codec) (r : Bytes) : Prop := ∀ b ∈ r, (c.dec b).isSome

theorem decode_some {c : Codec} {r : Bytes} (h : Decodable c r) : ∃ t, c.decode r = some t ∧ t.length = r.length :=
  mapM_total fun b hb => Option.isSome_iff_exists.mp (h b hb)

theorem decodable_slice {c : Codec} {r : Bytes} (h : Decodable c r) (a b : Nat) : Decodable c (slice r a b) := by
  intro x hx
  exact h x (List.mem_of_mem_take (List.mem_of_mem_drop hx))

/-- C18(b): what one matching record yields: the requested table id, the effective timestamp
    (first 10 / 7 characters), the active/inactive code (next character) and every configured
    column equal to the configured character positions — `[start, end)` in an expanded row,
    `[start-8, end-8)` in a compressed one.  (Stated on the decoded slices.) -/
theorem C18_row_columns (c : Codec) (cols : List (Nat × Nat)) (table : Text) (expanded : Bool) (ix : Index)
    (r : Bytes) (row : Row) (h : rowOf c cols table expanded ix r = .ok (some row)) :
    row.tableId = table ∧
    decodeSlice c r 0 (if expanded then 10 else 7) = .ok row.effTs ∧
    decodeSlice c r (if expanded then 10 else 7) (if expanded then 11 else 8) = .ok row.code ∧
    Outcome.mapO (fun (se : Nat × Nat) => decodeSlice c r (se.1 - (if expanded then 0 else 8))
      (se.2 - (if expanded then 0 else 8))) cols = .ok row.cols :=
  let ⟨_, _, _, h⟩ := rowOf_eq_some h; h

/-- the table test: an expanded row carries its table id at positions 11..19, a compressed row a
    3-character sub-id at 8..11 that is looked up in the index -/
theorem C18_row_selected (c : Codec) (cols : List (Nat × Nat)) (table : Text) (expanded : Bool) (ix : Index)
    (r : Bytes) (row : Row) (h : rowOf c cols table expanded ix r = .ok (some row)) :
    (expanded = true → decodeSlice c r 11 19 = .ok table) ∧
    (expanded = false → ∃ sub, decodeSlice c r 8 11 = .ok sub ∧ ix.lookup sub = some table) := by
  obtain ⟨key, hk, ht, _⟩ := rowOf_eq_some h
  constructor <;> rintro rfl
  · cases ht; exact hk
  · exact ⟨key, hk, ht⟩

/-- C18(c): the compressed and the expanded representation of the same logical row give the same
    column values: with an 11-character compressed header and a 19-character expanded header in
    front of the same body, positions `[start-8, end-8)` and `[start, end)` select the same
    characters for every column starting at or after position 19. -/
theorem C18_compressed_eq_expanded (hdrC hdrX body : Bytes) (hC : hdrC.length = 11) (hX : hdrX.length = 19)
    (s e : Nat) (hs : 19 ≤ s) :
    slice (hdrC ++ body) (s - 8) (e - 8) = slice (hdrX ++ body) s e := by
  have hC' : hdrC.length ≤ s - 8 := hC ▸ Nat.le_sub_of_add_le hs
  rw [slice_append_right _ _ _ _ hC', slice_append_right _ _ _ _ (hX ▸ hs), hC, hX, Nat.sub_sub, Nat.sub_sub]

/-- C18(d): a table without configuration is refused with the library's error … -/
theorem C18_no_config (c : Codec) (table : Text) (expanded : Bool) (recs : List Bytes) (last : PEnd) :
    read c none table expanded recs last = ([], .dataError) ∧
    read c (some []) table expanded recs last = ([], .dataError) := by
  simp [Param.read]

/-- … and so is a file without the index trailer (no record starts with the trailer text). -/
theorem C18_missing_trailer (c : Codec) (cols : List (Nat × Nat)) (hc : cols ≠ []) (table : Text) (expanded : Bool)
    (recs : List Bytes)
    (hdec : ∀ r ∈ recs, Decodable c r)
    (hno : ∀ r ∈ recs, ∀ t, c.decode r = some t → t.take trailerPrefix.length ≠ trailerPrefix) :
    read c (some cols) table expanded recs .eof = ([], .dataError) :=
  read_no_trailer c cols hc table expanded recs .eof
    (scanIndex_no_trailer c recs (fun r hr => let ⟨t, ht, _⟩ := decode_some (hdec r hr); ⟨t, ht, hno r hr t ht⟩) [])

/-- C18(e): rows of other tables interleaved with the wanted ones never show up, and the wanted
    rows keep their file order (a consequence of (a): the result is a `filterMap`). -/
theorem C18_order_preserved (f : Bytes → Option Row) (a b : List Bytes) :
    specRows f (a ++ b) = specRows f a ++ specRows f b := by
  simp [specRows, List.filterMap_append]

-- sanity test (evaluated): index A->IP0040T1, one matching compressed row, one of another table
#guard
  let c : Codec := ⟨some, some⟩
  let idx : Bytes := List.replicate 11 32 ++ ip0000t1 ++ [73,80,48,48,52,48,84,49] ++ List.replicate 216 32 ++ [48,48,49]
  let trailer : Bytes := trailerPrefix
  let row1 : Bytes := [50,48,50,51,48,49,48] ++ [65] ++ [48,48,49] ++ [88,89,90]
  let row2 : Bytes := [50,48,50,51,48,49,48] ++ [65] ++ [48,48,50] ++ [81,81,81]
  (read c (some [(19, 22)]) [73,80,48,48,52,48,84,49] false [idx, trailer, row1, row2] .eof).1.map (·.cols) == [[[88,89,90]]]

end Cardutil.Props.C18
