import Cardutil.Model.Cli
import Cardutil.Props.C06
import Cardutil.Props.C01
import Cardutil.Lemmas.IsoReencode
/-
  C19 — encoding/format conversion tools preserve every record and are reversible.

  `Cli.convertParam` models `mci_ipm_param_encode` / `paramconv` (record-wise
  `decode(A).encode(B)`), `Cli.convertIpm` models `mci_ipm_encode` / `mideu convert` (reader in
  encoding A piped into a writer in encoding B; PDS expansion disabled on read).
-/
namespace Cardutil.Props.C19

open Cardutil Cardutil.Iso Cardutil.Py Cardutil.Vbs Cardutil.Cli

/-- re-coding one record -/
def recode (a b : Codec) (r : Bytes) : Option Bytes := (a.decode r).bind b.encode

/-- a codec whose decoding is inverted by its encoding (with `Lawful`: a bijection between the
    bytes it decodes and the characters it encodes) -/
def Codec.Inverse (c : Codec) : Prop := ∀ x ch, c.dec x = some ch → c.enc ch = some x

theorem encode_decode {c : Codec} (h : Codec.Inverse c) {r : Bytes} {t : Text} (hd : c.decode r = some t) :
    c.encode t = some r := mapM_inverse h hd

/-- C19 (parameter files, one record): converting A→B and back B→A reproduces the record, for
    codecs that are mutually inverse tables (latin_1, cp500, cp037 — checked below on the generated
    tables) -/
theorem C19_record_reversible (a b : Codec) (ha : Codec.Inverse a) (hb : b.Lawful) (r r' : Bytes)
    (h : recode a b r = some r') : recode b a r' = some r := by
  obtain ⟨t, hd, he⟩ := Option.bind_eq_some_iff.mp h
  exact Option.bind_eq_some_iff.mpr ⟨t, Codec.decode_encode hb he, encode_decode ha hd⟩

/-- the tool's per-record function is `recode` -/
theorem recodeRecord_ok (a b : Codec) (r r' : Bytes) : recodeRecord a b r = .ok r' ↔ recode a b r = some r' := by
  unfold recodeRecord recode
  cases a.decode r with
  | none => simp
  | some t =>
    simp only [Option.bind_some]
    cases h : b.encode t <;> simp

/-- table form of `Inverse` for a generated codec -/
def inverseTables (c : Codec) : Bool :=
  (List.range 256).all (fun x => match c.dec x with | some ch => c.enc ch == some x | none => true)

theorem inverseTables_of_inverse {c : Codec} (h : Codec.Inverse c) : inverseTables c = true := by
  rw [inverseTables, List.all_eq_true]
  intro x _
  cases hd : c.dec x with
  | none => rfl
  | some ch => simp [h x ch hd]

/-- the three production codecs decode every byte and are inverse tables -/
theorem latin1_total : (List.range 256).all (fun x => (Gen.latin_1.dec x).isSome) = true :=
  Codec.dec_total _ _ (by decide +kernel) (by decide +kernel)
theorem cp500_total : (List.range 256).all (fun x => (Gen.cp500.dec x).isSome) = true :=
  Codec.dec_total _ _ (by decide +kernel) (by decide +kernel)
theorem cp037_total : (List.range 256).all (fun x => (Gen.cp037.dec x).isSome) = true :=
  Codec.dec_total _ _ (by decide +kernel) (by decide +kernel)
theorem latin1_inverse : Codec.Inverse Gen.latin_1 :=
  Codec.inverse_of_tables (B := 257) (by decide +kernel) (by decide +kernel)
theorem cp500_inverse : Codec.Inverse Gen.cp500 :=
  Codec.inverse_of_tables (B := 257) (by decide +kernel) (by decide +kernel)
theorem cp037_inverse : Codec.Inverse Gen.cp037 :=
  Codec.inverse_of_tables (B := 257) (by decide +kernel) (by decide +kernel)
theorem latin1_inverse_tbl : inverseTables Gen.latin_1 = true := inverseTables_of_inverse latin1_inverse
theorem cp500_inverse_tbl : inverseTables Gen.cp500 = true := inverseTables_of_inverse cp500_inverse
theorem cp037_inverse_tbl : inverseTables Gen.cp037 = true := inverseTables_of_inverse cp037_inverse

/-- C19 (parameter files, whole file): the output of the tool on a writer-produced file is the
    writer's file of the re-coded records — same count, same order — for any input/output format -/
theorem C19_param_file (a b : Codec) (maxLen : Nat) (hmax : maxLen < 4294967296) (inB outB : Bool)
    (recs out : List Bytes)
    (hrecs : ∀ r ∈ recs, 0 < r.length ∧ r.length ≤ maxLen)
    (hout : Outcome.mapO (recodeRecord a b) recs = .ok out) :
    convertParam 1012 maxLen a b inB outB (Writer.listToBytes 1012 inB recs) =
      (.ok (Writer.listToBytes 1012 outB out), .eof) := by
  unfold convertParam
  simp only [C03.C03_roundtrip_any (P := 1012) (by decide) hmax inB recs hrecs, hout, Outcome.bind]

/-- C19 (IPM files): the tool's output is the writer's file of the re-encoded messages, in order;
    `msgs` are the dictionaries the reader (encoding A, PDS-less configuration) yields -/
theorem C19_ipm_file (envA envB : Env) (cfgRead cfgWrite : Config) (maxLen : Nat) (inB outB : Bool)
    (file : Bytes) (msgs : List Dict) (out : List Bytes)
    (hread : readerOf inB 1012 maxLen (decode envA cfgRead false) file = (msgs, .eof))
    (hout : Outcome.mapO (encode envB cfgWrite false) msgs = .ok out) :
    (convertIpm 1012 maxLen envA envB cfgRead cfgWrite inB outB file).1 = .ok (Writer.listToBytes 1012 outB out) ∧
    out.length = msgs.length := by
  unfold convertIpm
  simp only [hread, hout, Outcome.bind]
  exact ⟨trivial, (Outcome.mapO_eq_ok hout).1⟩

/-- … and reading that output under B returns exactly the re-encoded messages' decodings: with the
    per-message round trip of C01 (`decode_B (encode_B d) = ok d'`) the records of the output decoded
    under B are the input's records decoded under A, in the same order (C06 applied to the output) -/
theorem C19_ipm_reads_back (envB : Env) (cfgWrite : Config) (maxLen : Nat) (hmax : maxLen < 4294967296) (outB : Bool)
    (msgs : List Dict) (expected : Dict → Dict) (recOf : Dict → Bytes)
    (henc : ∀ m ∈ msgs, encode envB cfgWrite false m = .ok (recOf m) ∧ 0 < (recOf m).length ∧ (recOf m).length ≤ maxLen)
    (hdec : ∀ m ∈ msgs, decode envB cfgWrite false (recOf m) = .ok (expected m)) :
    ∃ file, C06.ipmWrite (encode envB cfgWrite false) outB msgs = .ok file ∧
      C06.ipmRead (decode envB cfgWrite false) maxLen outB file = (msgs.map expected, .eof) :=
  C06.C06_file_roundtrip _ _ expected recOf maxLen hmax outB msgs henc hdec

/-- the read configuration of both IPM tools leaves the PDS carriers alone -/
theorem C19_noPds (cfg : Config) : ∀ e ∈ noPds cfg, e.2.proc ≠ .pds := by
  intro e he
  unfold noPds at he
  obtain ⟨x, _, rfl⟩ := List.mem_map.mp he
  simp only
  split
  · simp
  · rename_i h; simpa using h

theorem C19_noPds_get (cfg : Config) : ∀ bit f, (noPds cfg).get bit = some f → f.proc ≠ .pds :=
  Config.forall_get (C19_noPds cfg)

/-- the step of every journey below: what the library wrote under X, decoded under X, encodes under Y to what the
    library writes under Y for the message itself (no PAN masking; X and Y agree on `int()` and the date parser) -/
theorem reencode {envX envY : Env} (hX : EnvOK envX)
    (hcl : envX.classes = envY.classes) (hpd : envX.parseDate = envY.parseDate)
    (cfg : Config) (hexX hexY : Bool) (m : Dict)
    (hnopan : ∀ bit f, cfg.get bit = some f → f.proc ≠ .pan ∧ f.proc ≠ .panPrefix)
    (ds : List Nat) (hds : ∀ d ∈ ds, d < 10) (hl : ds.length = 4)
    (hmti : Dict.get m .mti = some (.str (digitText ds)))
    (hnopds : pdsEntriesOf m = [])
    (hwfX : ElemsWF envX cfg m allBits) (hwfY : ElemsWF envY cfg m allBits) :
    ∃ a d, encode envX cfg hexX m = .ok a ∧ decode envX cfg hexX a = .ok d ∧
      encodeCore envY cfg hexY d = encode envY cfg hexY m := by
  obtain ⟨a, _, h1, h2, -, -, hd⟩ := core_roundtrip hX cfg hexX m ds hds hl hmti hwfX
  exact ⟨a, _, C01.encode_no_pds _ _ _ _ hnopds ▸ h1, h2,
    C01.encode_no_pds _ _ _ _ hnopds ▸ hd.reencode hcl hpd hnopan hwfY hexY⟩

/-- C19 (the step behind byte-for-byte reversibility of the IPM tools): for a configuration
    without PAN masking, decoding a record the library wrote and encoding the result again gives
    the SAME BYTES — the decoder's typed values (numbers, date-times), masked nothing, and derived
    entries (TAGxxxx, ICC_DATA, DE43_*) do not change what the encoder emits -/
theorem C19_reencode_identity {env : Env} (henv : EnvOK env) (cfg : Config) (hexBitmap : Bool) (m : Dict)
    (hnopan : ∀ bit f, cfg.get bit = some f → f.proc ≠ .pan ∧ f.proc ≠ .panPrefix)
    (ds : List Nat) (hds : ∀ d ∈ ds, d < 10) (hl : ds.length = 4)
    (hmti : Dict.get m .mti = some (.str (digitText ds)))
    (hnopds : pdsEntriesOf m = [])
    (hwf : ElemsWF env cfg m allBits) :
    ∃ bs d, encode env cfg hexBitmap m = .ok bs ∧ decode env cfg hexBitmap bs = .ok d ∧
      encodeCore env cfg hexBitmap d = .ok bs := by
  obtain ⟨bs, d, h1, h2, h3⟩ := reencode henv rfl rfl cfg hexBitmap hexBitmap m hnopan ds hds hl hmti hnopds hwf hwf
  exact ⟨bs, d, h1, h2, h3.trans h1⟩

/-- C19 (message level, there and back): a message that is well formed under encodings A and B
    (same character classes and date parser; no PAN masking; no PDS keys) goes
      bytes_A  --decode A-->  d_A  --encode B-->  bytes_B  --decode B-->  d_B  --encode A-->  bytes_A
    and arrives at the SAME BYTES it started from: converting a record to the other encoding and
    back is the identity on the record, typed values and derived entries notwithstanding -/
theorem C19_there_and_back {envA envB : Env} (hA : EnvOK envA) (hB : EnvOK envB)
    (hcl : envA.classes = envB.classes) (hpd : envA.parseDate = envB.parseDate)
    (cfg : Config) (m : Dict)
    (hnopan : ∀ bit f, cfg.get bit = some f → f.proc ≠ .pan ∧ f.proc ≠ .panPrefix)
    (ds : List Nat) (hds : ∀ d ∈ ds, d < 10) (hl : ds.length = 4)
    (hmti : Dict.get m .mti = some (.str (digitText ds)))
    (hnopds : pdsEntriesOf m = [])
    (hwfA : ElemsWF envA cfg m allBits) (hwfB : ElemsWF envB cfg m allBits) :
    ∃ a dA b dB, encode envA cfg false m = .ok a ∧ decode envA cfg false a = .ok dA ∧
      encodeCore envB cfg false dA = .ok b ∧ decode envB cfg false b = .ok dB ∧
      encodeCore envA cfg false dB = .ok a ∧ encode envB cfg false m = .ok b := by
  obtain ⟨a, dA, a1, a2, a3⟩ := reencode hA hcl hpd cfg false false m hnopan ds hds hl hmti hnopds hwfA hwfB
  obtain ⟨b, dB, b1, b2, b3⟩ := reencode hB hcl.symm hpd.symm cfg false false m hnopan ds hds hl hmti hnopds hwfB hwfA
  exact ⟨a, dA, b, dB, a1, a2, a3.trans b1, b2, b3.trans a1, b1⟩

/-- C19 (the tools' own calls): when the configuration leaves the PDS carriers alone — the read
    configuration of `mci_ipm_encode` and `mideu convert` (`C19_noPds`) — the decoded dictionaries
    hold no PDS key, so the tool's `encode` (with PDS packing) is the plain encoder and the journey
    A → B → A through `loads` / `dumps` returns the record byte for byte -/
theorem C19_there_and_back_tools {envA envB : Env} (hA : EnvOK envA) (hB : EnvOK envB)
    (hcl : envA.classes = envB.classes) (hpd : envA.parseDate = envB.parseDate)
    (cfg : Config) (m : Dict)
    (hnopan : ∀ bit f, cfg.get bit = some f → f.proc ≠ .pan ∧ f.proc ≠ .panPrefix)
    (hnp : ∀ bit f, cfg.get bit = some f → f.proc ≠ .pds)
    (ds : List Nat) (hds : ∀ d ∈ ds, d < 10) (hl : ds.length = 4)
    (hmti : Dict.get m .mti = some (.str (digitText ds)))
    (hnopds : pdsEntriesOf m = [])
    (hwfA : ElemsWF envA cfg m allBits) (hwfB : ElemsWF envB cfg m allBits) :
    ∃ a dA b dB, encode envA cfg false m = .ok a ∧ decode envA cfg false a = .ok dA ∧
      encode envB cfg false dA = .ok b ∧ decode envB cfg false b = .ok dB ∧
      encode envA cfg false dB = .ok a := by
  obtain ⟨a, dA, b, dB, a1, a2, a3, b2, b3, b1⟩ :=
    C19_there_and_back hA hB hcl hpd cfg m hnopan ds hds hl hmti hnopds hwfA hwfB
  have e := fun env => C01.encode_no_pds env cfg false
  have nA := C01.C01_decoded_no_pds hA cfg false m hnp ds hds hl hmti hwfA a dA (e _ m hnopds ▸ a1) a2
  have nB := C01.C01_decoded_no_pds hB cfg false m hnp ds hds hl hmti hwfB b dB (e _ m hnopds ▸ b1) b2
  exact ⟨a, dA, b, dB, a1, a2, (e _ dA nA).trans a3, b2, (e _ dB nB).trans b3⟩

/-- the packaged configuration has no PAN masking (re-checked against /repo on every run) -/
theorem packaged_no_pan : ∀ bit f, Gen.bitConfig.get bit = some f → f.proc ≠ .pan ∧ f.proc ≠ .panPrefix :=
  Config.forall_get (by decide)

/-- non-vacuity of `C19_there_and_back_tools`: the packaged configuration as the tools read it
    (`noPds`), encodings latin_1 and cp500, the sample message of C01 -/
example (pd : Text → Option DateTime) :
    ∃ a dA b dB, encode (C01.envOf Gen.latin_1 pd) (noPds Gen.bitConfig) false C01.sampleMsg = .ok a ∧
      decode (C01.envOf Gen.latin_1 pd) (noPds Gen.bitConfig) false a = .ok dA ∧
      encode (C01.envOf Gen.cp500 pd) (noPds Gen.bitConfig) false dA = .ok b ∧
      decode (C01.envOf Gen.cp500 pd) (noPds Gen.bitConfig) false b = .ok dB ∧
      encode (C01.envOf Gen.latin_1 pd) (noPds Gen.bitConfig) false dB = .ok a := by
  exact C19_there_and_back_tools (C01.envOK_latin1 pd) (C01.envOK_cp500 pd) (by simp only [C01.envOf]) (by simp only [C01.envOf]) (noPds Gen.bitConfig) C01.sampleMsg
    (Config.forall_get (by decide)) (C19_noPds_get Gen.bitConfig) [1,1,4,4] (by decide) rfl rfl rfl
    (C01.sample_wf pd _ (Or.inl rfl) _ (by decide +kernel) (by decide +kernel))
    (C01.sample_wf pd _ (Or.inr (Or.inl rfl)) _ (by decide +kernel) (by decide +kernel))

-- sanity test (evaluated): latin_1 -> cp500 -> latin_1 on a record of all 256 byte values
#guard ((recode Gen.latin_1 Gen.cp500 (List.range 256)).bind (recode Gen.cp500 Gen.latin_1)) == some (List.range 256)

end Cardutil.Props.C19
