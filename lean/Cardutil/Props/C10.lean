import Cardutil.Lemmas.Vbs
/-
  C10 — a bad record is reported with its own record number and raw bytes.

  `Vbs.ipmReadAll S maxLen dec fuel (Vbs.init file)` models `list(IpmReader(file))` for any message
  decoder `dec` (the ISO8583 decoder of the model is one instance): the statements hold whatever
  makes record k undecodable — bad MTI, unknown bit, bad field length, bad typed value, bad PDS/ICC
  content.  Files are unbounded: any number of good records before the bad one.
-/
namespace Cardutil.Props.C10

open Cardutil Cardutil.Vbs

/-- C10(a), message-level fault, unblocked: records 1..k-1 are delivered, then the library error
    with record number k and context = the raw bytes of record k including its length prefix -/
theorem C10_message_fault {α} (dec : Bytes → Outcome α) (val : Bytes → α) (maxLen : Nat) (hmax : maxLen < lim32)
    (good : List Bytes) (bad : Bytes) (rest : Bytes)
    (hgood : ∀ r ∈ good, 0 < r.length ∧ r.length ≤ maxLen ∧ dec r = .ok (val r))
    (hb0 : 0 < bad.length) (hbl : bad.length ≤ maxLen) (hbad : dec bad = .dataError) (fuel : Nat)
    (hf : good.length < fuel) :
    ipmReadAll plainSrc maxLen dec fuel (init (vbsBytes good ++ (be32 bad.length ++ (bad ++ rest)))) =
      (good.map val, .dataError (good.length + 1) (be32 bad.length ++ bad)) := by
  obtain ⟨f, hf'⟩ := Nat.exists_eq_add_one_of_ne_zero (Nat.sub_ne_zero_of_lt hf)
  rw [init, ipmReadAll_good hmax hgood _ (Nat.le_of_lt hf), hf', ipmReadAll_succ, next_record hb0 hbl hmax]
  simp [hbad]

/-- C10(b), framing-level fault (declared length above the maximum): number k, the length bytes -/
theorem C10_oversized {α} (dec : Bytes → Outcome α) (val : Bytes → α) (maxLen : Nat) (hmax : maxLen < 4294967296)
    (good : List Bytes) (n : Nat) (rest : Bytes)
    (hgood : ∀ r ∈ good, 0 < r.length ∧ r.length ≤ maxLen ∧ dec r = .ok (val r))
    (hn : maxLen < n) (hn32 : n < 4294967296) (fuel : Nat) (hf : good.length < fuel) :
    ipmReadAll plainSrc maxLen dec fuel (init (vbsBytes good ++ (be32 n ++ rest))) =
      (good.map val, .dataError (good.length + 1) (be32 n)) :=
  ipmReadAll_good_done hmax hgood hf (next_oversized hn hn32)

/-- C10(c), framing-level fault (record cut short): number k, the length bytes and the bytes that
    could be read -/
theorem C10_truncated {α} (dec : Bytes → Outcome α) (val : Bytes → α) (maxLen : Nat) (hmax : maxLen < 4294967296)
    (good : List Bytes) (bad : Bytes) (n : Nat)
    (hgood : ∀ r ∈ good, 0 < r.length ∧ r.length ≤ maxLen ∧ dec r = .ok (val r))
    (hbl : bad.length ≤ maxLen) (hn : n < bad.length) (fuel : Nat) (hf : good.length < fuel) :
    ipmReadAll plainSrc maxLen dec fuel (init (vbsBytes good ++ (be32 bad.length ++ bad.take n))) =
      (good.map val, .dataError (good.length + 1) (be32 bad.length ++ bad.take n)) :=
  ipmReadAll_good_done hmax hgood hf (next_truncated hbl hmax hn)

/-- C10(d): the same through the 1014 unblocker — a blocked file behaves exactly like its payload
    stream, record numbers and context bytes included -/
theorem C10_blocked {α} (dec : Bytes → Outcome α) (maxLen fuel : Nat) (file : Bytes) :
    ipmReadAll (unblockSrc 1012) maxLen dec fuel (init ⟨file, []⟩) =
      ipmReadAll plainSrc maxLen dec fuel (init (Block.payloads 1012 file)) :=
  ipmReadAll_unblock 1012 maxLen dec fuel ⟨file, []⟩ 1 none

/-- the operator report is a function of the error's record number: `print_exception_details`
    prints "Error detected in record k" for the k carried by the error (modelled as the identity on
    the number; the text is exercised by the harness) -/
def reportedRecord : End → Option Nat
  | .dataError k _ => some k
  | _ => none

theorem C10_report {α} (dec : Bytes → Outcome α) (val : Bytes → α) (maxLen : Nat) (hmax : maxLen < 4294967296)
    (good : List Bytes) (bad : Bytes) (rest : Bytes)
    (hgood : ∀ r ∈ good, 0 < r.length ∧ r.length ≤ maxLen ∧ dec r = .ok (val r))
    (hb0 : 0 < bad.length) (hbl : bad.length ≤ maxLen) (hbad : dec bad = .dataError) :
    reportedRecord (ipmReadAll plainSrc maxLen dec (good.length + 1)
      (init (vbsBytes good ++ (be32 bad.length ++ (bad ++ rest))))).2 = some (good.length + 1) := by
  rw [C10_message_fault dec val maxLen hmax good bad rest hgood hb0 hbl hbad _ (by omega)]
  rfl

/-- non-vacuity: a decoder that accepts records starting with 1 and rejects the others -/
example :
    ipmReadAll plainSrc 6000 (fun r => if r.head? = some 1 then .ok r.length else .dataError) 10
      (init (vbsBytes [[1, 9], [1]] ++ (be32 2 ++ ([7, 7] ++ [0, 0, 0, 0])))) =
      ([2, 1], .dataError 3 [0, 0, 0, 2, 7, 7]) := by decide

end Cardutil.Props.C10
