import Cardutil.Model.Info
import Cardutil.Props.C04
import Cardutil.Props.C03
import Cardutil.Gen.PyTables
import Cardutil.Props.C02
/-
  C17 — file inspection recognises writer output: validity, encoding family, blocking.

  `Info.ipmInfoP S P …` models `ipm_info` with the sample size `S` (2500) and payload size `P`
  (1012) as parameters; the block check lemma is generic in `P` and in `S ≥ 2·(P+2)`, the property
  theorems instantiate the code's constants.  Files have any number of blocks.
-/
namespace Cardutil.Props.C17

open Cardutil Cardutil.Block Cardutil.Info

/-- recognised however many blocks follow (the defect was: only files of exactly one or two
    blocks were) -/
theorem blockCheck_wellBlocked {P S : Nat} (hS : 2 * (P + 2) ≤ S) {f : Bytes}
    (hw : wellBlocked P f = true) (hne : f ≠ []) : blockCheck P (f.take S) = true := by
  obtain ⟨h1, h2, h3⟩ := (wellBlocked_iff hne).mp hw
  have hPS : P + 2 ≤ S := Nat.le_trans (Nat.le_mul_of_pos_left _ Nat.two_pos) hS
  have hb1 : P + 2 ≤ (f.take S).length := le_length_take hPS h1
  rw [blockCheck, if_neg (Nat.not_lt.mpr hb1), take_drop_take hPS, h2]
  rw [beq_self_eq_true, if_pos rfl]
  by_cases hlen : (f.take S).length = P + 2
  · rw [if_pos hlen]
  · -- the sample is longer than one block, so the file is, and its remainder is well blocked
    rw [if_neg hlen]
    have hne' : f.drop (P + 2) ≠ [] := fun h0 =>
      hlen (Nat.le_antisymm (Nat.le_trans (List.length_take_le' S f) (List.drop_eq_nil_iff.mp h0)) hb1)
    obtain ⟨h4, h5, _⟩ := (wellBlocked_iff hne').mp h3
    rw [List.length_drop] at h4
    rw [List.drop_drop] at h5
    -- the file holds two whole blocks, hence the sample does
    have h2f : 2 * (P + 2) ≤ f.length := Nat.two_mul _ ▸ Nat.add_le_of_le_sub h1 h4
    have h2S : P + 2 + P + 2 ≤ S := Nat.add_assoc .. ▸ Nat.two_mul _ ▸ hS
    rw [if_pos ⟨le_length_take hS h2f, by rw [take_drop_take h2S, h5]; rfl⟩]

/-- C17(a): every 1014-blocked file written by the library's writer — any number of records and
    blocks — is reported blocked -/
theorem C17_blocked_writer_output (recs : List Bytes) :
    block1014Check ((Writer.listToBytes 1012 true recs).take 2500) = true := by
  rw [Writer.listToBytes_eq]
  exact blockCheck_wellBlocked (by decide) (C04.C04_trailers _) (stream_ne_nil _ _)

/-- C17(b): an unblocked file is reported unblocked unless its bytes 1012–1013 are both 0x40 -/
theorem C17_unblocked (file : Bytes) (h : ((file.take 2500).drop 1012).take 2 ≠ PP) :
    block1014Check (file.take 2500) = false := by
  rw [block1014Check, blockCheck]
  by_cases hl : (file.take 2500).length < 1012 + 2
  · rw [if_pos hl]
  · rw [if_neg hl, if_neg (by simpa using h)]

theorem ipmInfo_of_long (cfgBits : List Nat) (maxLen : Nat) (t1 t2 : List Nat) (file : Bytes) (h24 : 24 ≤ file.length) :
    ipmInfo cfgBits maxLen t1 t2 file =
      if maxLen < be32dec ((file.take 2500).take 4) then .invalid .firstLengthTooLong
      else match bitmapCheck cfgBits (((file.take 2500).drop 8).take 16) with
        | some b => .invalid (.bitmapUsesUnconfigured b)
        | none => .valid (block1014Check (file.take 2500)) (encodingCheck t1 t2 (((file.take 2500).drop 4).take 4)) := by
  have h : 24 ≤ (file.take 2500).length := le_length_take (by decide) h24
  rw [ipmInfo, ipmInfoP]
  -- the `match` of the statement is not the definition's by name: with its argument a variable the two unfold to the same
  generalize bitmapCheck cfgBits _ = d
  exact if_neg (Nat.not_lt.mpr h)

theorem bitmapCheck_eq_none {cfgBits : List Nat} {bm : Bytes} :
    bitmapCheck cfgBits bm = none ↔ ∀ b ∈ Iso.presentBits bm, b ∈ cfgBits := by
  simp [bitmapCheck]

/-- C17(c): the three invalid classes are reported invalid, each with its reason -/
theorem C17_invalid_short (cfgBits : List Nat) (maxLen : Nat) (t1 t2 : List Nat) (file : Bytes) (h : file.length < 24) :
    ipmInfo cfgBits maxLen t1 t2 file = .invalid .tooShort := by
  unfold ipmInfo ipmInfoP
  exact if_pos (by rw [List.length_take]; omega)

theorem C17_invalid_length (cfgBits : List Nat) (maxLen : Nat) (t1 t2 : List Nat) (file : Bytes) (h24 : 24 ≤ file.length)
    (h : maxLen < be32dec ((file.take 2500).take 4)) :
    ipmInfo cfgBits maxLen t1 t2 file = .invalid .firstLengthTooLong := by
  rw [ipmInfo_of_long _ _ _ _ _ h24, if_pos h]

theorem C17_invalid_bitmap (cfgBits : List Nat) (maxLen : Nat) (t1 t2 : List Nat) (file : Bytes) (h24 : 24 ≤ file.length)
    (hlen : ¬ maxLen < be32dec ((file.take 2500).take 4)) (bit : Nat)
    (hbit : bitmapCheck cfgBits (((file.take 2500).drop 8).take 16) = some bit) :
    ipmInfo cfgBits maxLen t1 t2 file = .invalid (.bitmapUsesUnconfigured bit) ∧ bit ∉ cfgBits := by
  rw [ipmInfo_of_long _ _ _ _ _ h24, if_neg hlen, hbit]
  exact ⟨rfl, by simpa using List.find?_some hbit⟩

/-- C17(d): a file that is long enough, whose first length is within the maximum and whose first
    bitmap uses configured elements only, is reported valid -/
theorem C17_valid (cfgBits : List Nat) (maxLen : Nat) (t1 t2 : List Nat) (file : Bytes) (h24 : 24 ≤ file.length)
    (hlen : be32dec ((file.take 2500).take 4) ≤ maxLen)
    (hbits : ∀ b ∈ Iso.presentBits (((file.take 2500).drop 8).take 16), b ∈ cfgBits) :
    ∃ blk enc, ipmInfo cfgBits maxLen t1 t2 file = .valid blk enc := by
  rw [ipmInfo_of_long _ _ _ _ _ h24, if_neg (by omega), bitmapCheck_eq_none.mpr hbits]
  exact ⟨_, _, rfl⟩

/-- the table is asked on the range `lo .. lo+n-1` once, not per byte of the MTI -/
theorem allNumeric_of_range {tbl : List Nat} {lo n : Nat} {v : Bool} (ht : ∀ i < n, tbl.contains (lo + i) = v)
    {mti : Bytes} (hl : mti ≠ []) (h : ∀ b ∈ mti, lo ≤ b ∧ b ≤ lo + (n - 1)) (hn : 0 < n) : allNumeric tbl mti = v := by
  have hc : ∀ b ∈ mti, tbl.contains b = v := fun b hb => by
    have hle : b - lo ≤ n - 1 := Nat.sub_le_iff_le_add'.mpr (h b hb).2
    have := ht (b - lo) (Nat.lt_of_le_of_lt hle (Nat.sub_one_lt (Nat.ne_of_gt hn)))
    rwa [Nat.add_sub_cancel' (h b hb).1] at this
  cases mti with
  | nil => exact absurd rfl hl
  | cons b bs =>
    cases v
    · simp only [allNumeric, List.all_cons, hc b (by simp), Bool.false_and, Bool.and_false]
    · simp only [allNumeric, List.isEmpty_cons, Bool.not_false, Bool.true_and, List.all_eq_true]; exact hc

/-- C17(e): encoding family from the MTI bytes, using the tables measured from the interpreter
    (re-generated on every run): four ASCII digits → latin1, four EBCDIC digits → cp037 -/
theorem C17_encoding_ascii (mti : Bytes) (hl : mti ≠ []) (h : ∀ b ∈ mti, 0x30 ≤ b ∧ b ≤ 0x39) :
    encodingCheck Gen.latin1Numeric Gen.cp037Numeric mti = .latin1 := by
  rw [encodingCheck, if_pos (allNumeric_of_range (n := 10) (by decide) hl h (by decide))]

theorem C17_encoding_ebcdic (mti : Bytes) (hl : mti ≠ []) (h : ∀ b ∈ mti, 0xF0 ≤ b ∧ b ≤ 0xF9) :
    encodingCheck Gen.latin1Numeric Gen.cp037Numeric mti = .cp037 := by
  rw [encodingCheck, allNumeric_of_range (n := 10) (v := false) (by decide) hl h (by decide),
    if_pos (allNumeric_of_range (n := 10) (by decide) hl h (by decide))]
  rfl

-- sanity tests (evaluated): the test-suite samples 1014 / 2028 and a three-block file
#guard block1014Check (List.replicate 1012 32 ++ [64, 64]) == true
#guard block1014Check (List.replicate 1012 32 ++ [64, 64] ++ List.replicate 1013 32) == false
#guard block1014Check ((List.replicate 1012 32 ++ [64, 64] ++ List.replicate 1012 32 ++ [64, 64] ++ List.replicate 800 1).take 2500) == true

open Cardutil.Iso

/-- apart from the block check, `ipm_info` reads the first 24 bytes only: first length, MTI, bitmap -/
theorem info_of_start (cfgBits : List Nat) (maxLen : Nat) (t1 t2 : List Nat) (file : Bytes) (n : Nat)
    (mti bitmap : Bytes)
    (hn : n ≤ maxLen) (hn32 : n < lim32) (hm : mti.length = 4) (hb : bitmap.length = 16)
    (hstart : file.take 24 = be32 n ++ (mti ++ bitmap))
    (hbits : ∀ b ∈ presentBits bitmap, b ∈ cfgBits) :
    ipmInfo cfgBits maxLen t1 t2 file = .valid (block1014Check (file.take 2500)) (encodingCheck t1 t2 mti) := by
  have hlen24 : 24 ≤ file.length := by
    have := List.length_take_le' 24 file
    rwa [hstart, List.length_append, List.length_append, be32_length, hm, hb] at this
  -- each slice `ipm_info` looks at lies within the first 24 bytes, of the sample as of the file
  have h4 : (file.take 2500).take 4 = be32 n := by
    show ((file.take 2500).drop 0).take 4 = _
    rw [take_drop_take (by decide), ← take_drop_take (S := 24) (by decide), hstart]
    exact List.take_left' (be32_length n)
  have hm4 : ((file.take 2500).drop 4).take 4 = mti := by
    rw [take_drop_take (by decide), ← take_drop_take (S := 24) (by decide), hstart, List.drop_left' (be32_length n)]
    exact List.take_left' hm
  have hb16 : ((file.take 2500).drop 8).take 16 = bitmap := by
    rw [take_drop_take (by decide), ← take_drop_take (S := 24) (by decide), hstart, ← List.append_assoc,
      List.drop_left' (by rw [List.length_append, be32_length, hm])]
    exact List.take_of_length_le (Nat.le_of_eq hb)
  rw [ipmInfo_of_long _ _ _ _ _ hlen24, h4, be32dec_be32 hn32, if_neg (Nat.not_lt.mpr hn), hb16,
    bitmapCheck_eq_none.mpr hbits, hm4]

/-- the link to the writer: the file starts with the length of its first record, and the record — by C02's layout —
    with its MTI and the bitmap of the emitted elements, each of which has a configuration -/
theorem writer_output_info (blocked : Bool) (env : Env) (cfg : Config) (m : Dict) (rec1 : Bytes) (others : List Bytes)
    (maxLen : Nat) (hmax : maxLen < lim32)
    (henc : encodeCore env cfg false m = .ok rec1) (hlen : rec1.length ≤ maxLen)
    (cfgBits : List Nat) (hcfg : ∀ b, (∃ f, cfg.get b = some f) → b ∈ cfgBits)
    (mti : Bytes) (hmti : encodeMti env m = .ok mti) (hm4 : mti.length = 4) :
    ipmInfo cfgBits maxLen Gen.latin1Numeric Gen.cp037Numeric (Writer.listToBytes 1012 blocked (rec1 :: others)) =
      .valid (block1014Check ((Writer.listToBytes 1012 blocked (rec1 :: others)).take 2500))
        (encodingCheck Gen.latin1Numeric Gen.cp037Numeric mti) := by
  obtain ⟨mti', pres, data, hm', hbits, hbs, -⟩ := C02.C02_message_layout env cfg false m rec1 henc
  cases hm'.symm.trans hmti
  -- the elements the encoder flags are `emitted m allBits`
  rw [encodeBits_eq] at hbits
  obtain ⟨parts, -, hpd⟩ := Outcome.bind_eq_ok.mp hbits
  cases hpd
  rw [if_neg Bool.false_ne_true, ← bitmapOf_eq] at hbs
  refine info_of_start cfgBits maxLen _ _ _ rec1.length mti (bitmapOf (emitted m allBits)) hlen
    (Nat.lt_of_le_of_lt hlen hmax) hm4 (bitmapOf_length _) ?_
    (fun b hb => hcfg b (emitted_configured henc b (presentBits_emitted m ▸ hb)))
  -- the first 24 bytes of the file are those of the record stream `be32 rec1.length ++ rec1 ++ …` (24 ≤ 1012)
  obtain ⟨k, hk⟩ := recordStream_listToBytes (P := 1012) (by decide) blocked (rec1 :: others)
  rw [← take_recordStream (P := 1012) (by decide) blocked, hk, vbsBytes_cons, hbs]
  simp only [List.append_assoc]
  generalize (mti ++ (bitmapOf (emitted m allBits) ++ parts.flatten)).length = n
  rw [← List.append_assoc mti, ← List.append_assoc (be32 n)]
  exact List.take_left' (by rw [List.length_append, List.length_append, be32_length, hm4, bitmapOf_length])

/-- C17(f): every IPM file written by the library's writer (unblocked), whose first message was
    encoded by `encodeCore` under a configuration whose elements are all known to the inspector and
    is within the maximum record length, is reported valid with the encoding family of its MTI digits -/
theorem C17_writer_output_valid_unblocked (env : Env) (cfg : Config) (m : Dict) (rec1 : Bytes) (others : List Bytes)
    (maxLen : Nat) (hmax : maxLen < 4294967296)
    (henc : encodeCore env cfg false m = .ok rec1) (hlen : rec1.length ≤ maxLen)
    (cfgBits : List Nat) (hcfg : ∀ b, (∃ f, cfg.get b = some f) → b ∈ cfgBits)
    (mti : Bytes) (hmti : encodeMti env m = .ok mti) (hm4 : mti.length = 4) :
    ∃ blk, ipmInfo cfgBits maxLen Gen.latin1Numeric Gen.cp037Numeric (Writer.listToBytes 1012 false (rec1 :: others)) =
      .valid blk (encodingCheck Gen.latin1Numeric Gen.cp037Numeric mti) :=
  ⟨_, writer_output_info false env cfg m rec1 others maxLen hmax henc hlen cfgBits hcfg mti hmti hm4⟩

/-- C17(g): the same for the 1014-blocked writer, any number of records and blocks: the answer is
    (valid, blocked, the MTI's encoding family) -/
theorem C17_writer_output_valid_blocked (env : Env) (cfg : Config) (m : Dict) (rec1 : Bytes) (others : List Bytes)
    (maxLen : Nat) (hmax : maxLen < 4294967296)
    (henc : encodeCore env cfg false m = .ok rec1) (hlen : rec1.length ≤ maxLen)
    (cfgBits : List Nat) (hcfg : ∀ b, (∃ f, cfg.get b = some f) → b ∈ cfgBits)
    (mti : Bytes) (hmti : encodeMti env m = .ok mti) (hm4 : mti.length = 4) :
    ipmInfo cfgBits maxLen Gen.latin1Numeric Gen.cp037Numeric (Writer.listToBytes 1012 true (rec1 :: others)) =
      .valid true (encodingCheck Gen.latin1Numeric Gen.cp037Numeric mti) := by
  rw [writer_output_info true env cfg m rec1 others maxLen hmax henc hlen cfgBits hcfg mti hmti hm4,
    C17_blocked_writer_output]

end Cardutil.Props.C17
