import Cardutil.Lemmas.Pin
import Cardutil.Lemmas.Des
import Cardutil.Lemmas.Aes
/-
  C13 — PIN blocks follow ISO 9564 formats 0 and 4 and return the PIN, for 4–12 digits.

  `iso0ToBytes` / `iso0FromBytes` / `iso4ToBytes` / `iso4FromBytes` follow the code's string
  formatting and integer arithmetic literally (Model/PinBlock.lean).  The ISO 9564 layouts are
  stated independently as nibble lists (`p1Nibbles`, `p2Nibbles`, `f4Nibbles` in Lemmas/Pin.lean:
  control nibble, length as ONE hex digit, PIN digits, F/A fill; 0000 + 12 PAN digits).
  All PINs of 4..12 digits, all PANs of ≥ 13 digits, all 64-bit fills; no sampling.
-/
namespace Cardutil.Props.C13

open Cardutil Cardutil.Pin Cardutil.Digits

/-- reading the length nibble and the PIN back out of the hex text of a clear field `c, L, PIN, fill` -/
theorem read_pin {ns : List Nat} {c : Nat} {pin : Text} {fill : List Nat}
    (hns : ns = c :: pin.length :: (pin.map (· - 48) ++ fill)) (hp : AllDigits pin) (hl : pin.length < 16) :
    (do
      let p1 := ns.map hexChar
      let l ← intHex ((p1.drop 1).take 1)
      (.ok ((p1.drop 2).take l) : Outcome Text)) = .ok pin := by
  have e : intHex [hexChar pin.length] = .ok pin.length := by
    simpa [fromDigits] using intHex_hexChars (ns := [pin.length]) (by simp) (by simp; omega)
  simp only [hns, List.map_cons, List.drop_succ_cons, List.drop_zero, List.take_succ_cons, List.take_zero,
    List.map_append, digits_hexChar pin hp]
  rw [e]
  simp

/-- C13, format 0: the block is (0, L, PIN, F…) XOR (0000, 12 PAN digits) nibble by nibble,
    8 bytes long, and rebuilding from the block with the same PAN returns the PIN. -/
theorem C13_iso0 (pin pan : Text) (hpin : AllDigits pin) (hl4 : 4 ≤ pin.length) (hl12 : pin.length ≤ 12)
    (hpan : AllDigits pan) (hpl : 13 ≤ pan.length) :
    ∃ blk, iso0ToBytes pin pan = .ok blk ∧ blk.length = 8 ∧
      bytesToNibbles blk = List.zipWith (· ^^^ ·) (p1Nibbles pin) (p2Nibbles pan) ∧
      iso0FromBytes blk pan = .ok pin := by
  have h14 : pin.length ≤ 14 := Nat.le_trans hl12 (by decide)
  obtain ⟨v1, hA, h1v, h1⟩ := intHex_parsed (parse_p1 hpin h14) (length_p1 h14) (by decide)
  obtain ⟨v2, hB, h2v, h2⟩ := intHex_parsed (parse_p2 hpan) (length_p2 hpl) (by decide)
  have hv : v1 ^^^ v2 < 2 ^ 64 := Nat.xor_lt_two_pow (pow16 ▸ h1v) (pow16 ▸ h2v)
  refine ⟨toDigits 256 8 (v1 ^^^ v2), ?_, length_toDigits .., ?_, ?_⟩
  · simp only [iso0ToBytes, hA, hB, Outcome.bind_ok, hv, if_true]
  · rw [toDigits256_nibbles, toDigits_xor 4, h1, h2]
  · simp only [iso0FromBytes, hB, Outcome.bind_ok]
    rw [fromDigits_toDigits 8 _ (pow256 ▸ hv), xor_cancel, fmtHexW_of_lt h1v, h1]
    exact read_pin rfl hpin (Nat.lt_of_le_of_lt hl12 (by decide))

/-- C13, format 4: the block is (4, L, PIN, A fill to 16 digits, the 64 supplied random bits) and
    rebuilding from the block returns the PIN. -/
theorem C13_iso4 (pin : Text) (rnd : Nat) (hpin : AllDigits pin) (hl4 : 4 ≤ pin.length) (hl12 : pin.length ≤ 12)
    (hr : rnd < 2 ^ 64) :
    ∃ blk, iso4ToBytes pin rnd = .ok blk ∧ blk.length = 16 ∧
      bytesToNibbles blk = f4Nibbles pin ++ toDigits 16 16 rnd ∧
      iso4FromBytes blk = .ok pin := by
  have h14 : pin.length ≤ 14 := Nat.le_trans hl12 (by decide)
  have hparse : parseHexText (ljust 16 97 ([52] ++ lenField pin ++ pin) ++ (fmtHexW 16 rnd).map hexChar) =
      some (f4Nibbles pin ++ toDigits 16 16 rnd) := by
    rw [fmtHexW_of_lt (pow16 ▸ hr)]
    exact parseHexText_append (parse_f4 hpin h14) (parseHexText_hexChars _ (toDigits_lt (by decide) _ _))
  obtain ⟨blk, hu, hbl, hb⟩ := unhexlify_parsed (n := 16) hparse (by rw [List.length_append, length_f4 h14, length_toDigits])
  refine ⟨blk, hu, hbl, hb, ?_⟩
  rw [iso4FromBytes, hb]
  exact read_pin (c := 4) (fill := List.replicate (14 - pin.length) 10 ++ toDigits 16 16 rnd)
    (by rw [f4Nibbles, List.append_assoc, List.append_assoc]; rfl) hpin (Nat.lt_of_le_of_lt hl12 (by decide))

/-- C13, encrypted forms: for ANY block cipher whose decryption inverts its encryption under the
    key, decrypting the encrypted block and rebuilding returns the same PIN (both formats). -/
theorem C13_encrypted_roundtrip (E D : Bytes → Bytes) (hED : ∀ x, D (E x) = x)
    (pin pan : Text) (rnd : Nat) (hpin : AllDigits pin) (hl4 : 4 ≤ pin.length) (hl12 : pin.length ≤ 12)
    (hpan : AllDigits pan) (hpl : 13 ≤ pan.length) (hr : rnd < 2 ^ 64) :
    ((iso0ToBytes pin pan) >>= fun b => iso0FromBytes (D (E b)) pan) = .ok pin ∧
    ((iso4ToBytes pin rnd) >>= fun b => iso4FromBytes (D (E b))) = .ok pin := by
  obtain ⟨b0, h0, _, _, hb0⟩ := C13_iso0 pin pan hpin hl4 hl12 hpan hpl
  obtain ⟨b4, h4, _, _, hb4⟩ := C13_iso4 pin rnd hpin hl4 hl12 hr
  simp [h0, h4, hED, hb0, hb4]

/-! ### Triple DES itself (the cipher of `TdesEncryptedPinBlockMixin`), not a hypothesis -/

theorem tdes_encrypts (key data : Bytes) (hk : key.length = 8 ∨ key.length = 16 ∨ key.length = 24)
    (hd : data.length % 8 = 0) : ∃ ct, Des.tdesEcb false key data = .ok ct ∧ ct.length = data.length :=
  have ⟨h, hl, _⟩ := Des.tdesFn_spec key data hk hd
  ⟨_, h, hl⟩

theorem iso0ToBytes_bytes (pin pan : Text) (blk : Bytes) (h0 : iso0ToBytes pin pan = .ok blk) : Des.IsBytes blk := by
  obtain ⟨p1, _, h⟩ := Outcome.bind_eq_ok.mp h0
  obtain ⟨p2, _, h⟩ := Outcome.bind_eq_ok.mp h
  simp only at h
  split at h
  · rw [← Outcome.ok.inj h]
    exact toDigits_lt (by decide) 8 _
  · cases h

theorem iso4ToBytes_bytes (pin : Text) (rnd : Nat) (blk : Bytes) (h4 : iso4ToBytes pin rnd = .ok blk) :
    Des.IsBytes blk := (unhexlify_ok h4).2

/-- C13 with the cipher INSIDE the model: for every Triple DES key of 8, 16 or 24 bytes, every PIN of 4..12 digits and
    every PAN of 13 or more digits, the format-0 block is encrypted to 8 bytes, decryption under the same key returns
    the block, and rebuilding returns the PIN -/
theorem C13_tdes_iso0 (key : Bytes) (hk : key.length = 8 ∨ key.length = 16 ∨ key.length = 24)
    (pin pan : Text) (hpin : AllDigits pin) (hl4 : 4 ≤ pin.length) (hl12 : pin.length ≤ 12)
    (hpan : AllDigits pan) (hpl : 13 ≤ pan.length) :
    ∃ blk ct, iso0ToBytes pin pan = .ok blk ∧ Des.tdesEcb false key blk = .ok ct ∧ ct.length = 8 ∧
      Des.tdesEcb true key ct = .ok blk ∧ iso0FromBytes blk pan = .ok pin := by
  obtain ⟨blk, h0, hlen, _, hback⟩ := C13_iso0 pin pan hpin hl4 hl12 hpan hpl
  obtain ⟨ct, hct, hctl, hdec⟩ := Des.tdesEcb_roundtrip key blk hk (by rw [hlen]) (iso0ToBytes_bytes pin pan blk h0)
  exact ⟨blk, ct, h0, hct, hctl.trans hlen, hdec, hback⟩

/-- … and format 4 under the Triple DES mix-in (two ECB blocks) -/
theorem C13_tdes_iso4 (key : Bytes) (hk : key.length = 8 ∨ key.length = 16 ∨ key.length = 24)
    (pin : Text) (rnd : Nat) (hpin : AllDigits pin) (hl4 : 4 ≤ pin.length) (hl12 : pin.length ≤ 12) (hr : rnd < 2 ^ 64) :
    ∃ blk ct, iso4ToBytes pin rnd = .ok blk ∧ Des.tdesEcb false key blk = .ok ct ∧ ct.length = 16 ∧
      Des.tdesEcb true key ct = .ok blk ∧ iso4FromBytes blk = .ok pin := by
  obtain ⟨blk, h4, hlen, _, hback⟩ := C13_iso4 pin rnd hpin hl4 hl12 hr
  obtain ⟨ct, hct, hctl, hdec⟩ := Des.tdesEcb_roundtrip key blk hk (by rw [hlen]) (iso4ToBytes_bytes pin rnd blk h4)
  exact ⟨blk, ct, h4, hct, hctl.trans hlen, hdec, hback⟩

/-! ### AES itself (the cipher of `AESEncryptedPinBlockMixin`), not a hypothesis -/

theorem aes_encrypts (key x : Bytes) (hk : key.length = 16 ∨ key.length = 24 ∨ key.length = 32) :
    ∃ c, Aes.encryptBlock key x = some c := Aes.encryptBlock_some key x hk

/-- C13, AES form: for every 128-, 192- or 256-bit key, the format-4 block of every PIN of 4..12 digits is encrypted
    by the AES of Model/Aes.lean to a 16-byte block that the inverse cipher turns back into the clear block, from which
    the PIN is read back.  No property of the cipher is assumed: `invCipher_cipher` is proved. -/
theorem C13_aes_iso4 (key : Bytes) (hk : key.length = 16 ∨ key.length = 24 ∨ key.length = 32)
    (pin : Text) (rnd : Nat) (hpin : AllDigits pin) (hl4 : 4 ≤ pin.length) (hl12 : pin.length ≤ 12) (hr : rnd < 2 ^ 64) :
    ∃ blk ct, iso4ToBytes pin rnd = .ok blk ∧ Aes.encryptBlock key blk = some ct ∧ ct.length = 16 ∧
      Aes.decryptBlock key ct = some blk ∧ iso4FromBytes blk = .ok pin := by
  obtain ⟨blk, h4, hlen, _, hback⟩ := C13_iso4 pin rnd hpin hl4 hl12 hr
  obtain ⟨ct, hct, hcs, hdec⟩ := Aes.block_roundtrip key blk hk ⟨hlen, iso4ToBytes_bytes pin rnd blk h4⟩
  exact ⟨blk, ct, h4, hct, hcs.1, hdec, hback⟩

/-- non-vacuity and a known answer (module documentation): PIN 1234, PAN 1111222233334444 -/
example : AllDigits [49, 50, 51, 52] ∧ 4 ≤ [49, 50, 51, 52].length ∧ [49, 50, 51, 52].length ≤ 12 := by
  refine ⟨?_, by decide, by decide⟩
  intro c hc; simp at hc; omega

-- evaluated tests: documentation vector 041226dddccccbbb and a 12-digit PIN (length nibble C)
#guard iso0ToBytes [49,50,51,52] [49,49,49,49,50,50,50,50,51,51,51,51,52,52,52,52] ==
  .ok [0x04, 0x12, 0x26, 0xdd, 0xdc, 0xcc, 0xcb, 0xbb]
#guard (iso4ToBytes [49,50,51,52,53,54,55,56,57,48,49,50] 1).bind (fun b => .ok (b.take 8)) ==
  .ok [0x4c, 0x12, 0x34, 0x56, 0x78, 0x90, 0x12, 0xaa]

-- the module documentation's encrypted block: PIN 1234, PAN 1111222233334444, key 00 x 16 -> 4c0906d10308871a
#guard (iso0ToBytes [49,50,51,52] [49,49,49,49,50,50,50,50,51,51,51,51,52,52,52,52]).bind
    (Des.tdesEcb false (List.replicate 16 0)) == .ok [0x4c, 0x09, 0x06, 0xd1, 0x03, 0x08, 0x87, 0x1a]

end Cardutil.Props.C13
