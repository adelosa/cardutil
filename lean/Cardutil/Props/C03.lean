import Cardutil.Lemmas.Vbs
import Cardutil.Props.C04
/-
  C03 — VBS framing: any record list survives write then read, with byte-exact layout.

  `Writer.listToBytes P blocked recs` models `vbs_list_to_bytes` / a `VbsWriter` receiving `recs`
  then `close()`; `vbsBytesToList` models `vbs_bytes_to_list` / iterating a `VbsReader`.
  Records are arbitrary byte lists; the only hypotheses are the ones the property states:
  non-empty, at most the configured maximum (which is below 2^32).
-/
namespace Cardutil.Props.C03

open Cardutil Cardutil.Block

/-- C03(a): the unblocked file is exactly each record preceded by its 4-byte big-endian length,
    terminated by a zero length. -/
theorem C03_layout_unblocked (recs : List Bytes) :
    Writer.listToBytes 1012 false recs = vbsBytes recs ++ be32 0 :=
  Writer.listToBytes_eq 1012 false recs

/-- C03(b): the blocked file carries that same byte stream as its payload (then only 0x40 fill),
    in a whole number of well-formed 1014-byte blocks. -/
theorem C03_layout_blocked (recs : List Bytes) :
    wellBlocked 1012 (Writer.listToBytes 1012 true recs) = true ∧
    ∃ k, k < 2024 ∧ payloads 1012 (Writer.listToBytes 1012 true recs) =
      vbsBytes recs ++ be32 0 ++ List.replicate k padByte := by
  rw [Writer.listToBytes_eq]
  refine ⟨C04.C04_trailers _, ?_⟩
  obtain ⟨k, hk, hp⟩ := C04.C04_payloads (Writer.rawWrites recs ++ [be32 0])
  exact ⟨k, hk, by simp [hp, Writer.rawWrites_flatten]⟩

/-- C03(c, d) for any payload size, any maximum below 2^32 and both formats -/
theorem C03_roundtrip_any {P maxLen : Nat} (hP : 0 < P) (hmax : maxLen < lim32) (blocked : Bool) (recs : List Bytes)
    (h : ∀ r ∈ recs, 0 < r.length ∧ r.length ≤ maxLen) :
    vbsBytesToList P maxLen blocked (Writer.listToBytes P blocked recs) = (recs, .eof) := by
  obtain ⟨k, hk⟩ := recordStream_listToBytes hP blocked recs
  have hl := length_recordStream_le P blocked (Writer.listToBytes P blocked recs)
  rw [vbsBytesToList_eq, hk]
  rw [hk, List.length_append] at hl
  exact Vbs.readAll_vbs hmax recs _ h _ 1 none (by have := length_le_vbsBytes recs; omega)

/-- C03(c), unblocked round trip -/
theorem C03_roundtrip_unblocked (maxLen : Nat) (hmax : maxLen < 4294967296) (recs : List Bytes)
    (h : ∀ r ∈ recs, 0 < r.length ∧ r.length ≤ maxLen) :
    vbsBytesToList 1012 maxLen false (Writer.listToBytes 1012 false recs) = (recs, .eof) :=
  C03_roundtrip_any (by decide) hmax false recs h

/-- C03(d), blocked round trip -/
theorem C03_roundtrip_blocked (maxLen : Nat) (hmax : maxLen < 4294967296) (recs : List Bytes)
    (h : ∀ r ∈ recs, 0 < r.length ∧ r.length ≤ maxLen) :
    vbsBytesToList 1012 maxLen true (Writer.listToBytes 1012 true recs) = (recs, .eof) :=
  C03_roundtrip_any (by decide) hmax true recs h

/-- C03 at the packaged limit: `MAX_VBS_RECORD_LENGTH = 6000`, both formats. -/
theorem C03_roundtrip (blocked : Bool) (recs : List Bytes)
    (h : ∀ r ∈ recs, 0 < r.length ∧ r.length ≤ 6000) :
    vbsBytesToList 1012 6000 blocked (Writer.listToBytes 1012 blocked recs) = (recs, .eof) :=
  C03_roundtrip_any (by decide) (by decide) blocked recs h

/-- non-vacuity of the hypotheses: a two-record list (content resembling a terminator and fill) -/
example : ∀ r ∈ [[0, 64, 0, 0], [64]], 0 < r.length ∧ r.length ≤ 6000 := by
  intro r hr
  simp at hr
  rcases hr with rfl | rfl <;> simp

#guard Writer.listToBytes 1012 false [[1, 2], [255]] == [0, 0, 0, 2, 1, 2, 0, 0, 0, 1, 255, 0, 0, 0, 0]
#guard vbsBytesToList 1012 6000 true (Writer.listToBytes 1012 true [[1, 2], [255]]) == ([[1, 2], [255]], .eof)

end Cardutil.Props.C03
