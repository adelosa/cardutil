import Cardutil.Model.Cli
import Cardutil.Props.C01
/-
  C20 — CSV to IPM to CSV returns the same rows.

  `Cli.csvRow envW envR cfg row` models one row's journey: `mci_csv_to_ipm` drops the empty cells,
  `IpmWriter` encodes the remaining string cells (numbers through `int()`, date-times through the
  date parser), `IpmReader` decodes, `csv.DictWriter` renders each value with `str()` (`cellOf`).
  The `csv` module itself (quoting / parsing of commas, quotes, spaces) and the date parser are
  outside cardutil: they appear as the identity on cells / as the parameter `env.parseDate`.
-/
namespace Cardutil.Props.C20

open Cardutil Cardutil.Iso Cardutil.Py Cardutil.Digits Cardutil.Cli

/-- the journey of a row is exactly: drop empty cells, encode, decode, render with str() -/
theorem C20_row_journey (envW envR : Env) (cfg : Config) (row : Dict) :
    csvRow envW envR cfg row =
      ((encode envW cfg false (row.filter (fun kv => present kv.2))).bind (fun rec =>
        (decode envR cfg false rec).bind (fun d => .ok (d.map (fun kv => (kv.1, cellOf kv.2)))))) := rfl

/-- canonical decimal digits of a number (what `str(int)` prints) -/
def decDigits (n : Nat) : List Nat :=
  if n < 10 then [n] else decDigits (n / 10) ++ [n % 10]
termination_by n
decreasing_by omega

theorem natDigits_eq (n : Nat) : natDigits n = digitText (decDigits n) := by
  fun_induction decDigits n with
  | case1 n h => rw [natDigits]; simp [h, digitText]
  | case2 n h ih => rw [natDigits]; simp [h, digitText, ih]

theorem decDigits_lt (n : Nat) : ∀ d ∈ decDigits n, d < 10 := by
  fun_induction decDigits n with
  | case1 n h => simp [h]
  | case2 n h ih =>
    intro d hd
    rcases List.mem_append.mp hd with h1 | h1
    · exact ih d h1
    · exact List.mem_singleton.mp h1 ▸ Nat.mod_lt n (by decide)

theorem fromDigits_decDigits (n : Nat) : fromDigits 10 (decDigits n) = n := by
  fun_induction decDigits n with
  | case1 n h => simp [fromDigits]
  | case2 n h ih => rw [fromDigits_append, ih]; omega

theorem decDigits_ne_nil (n : Nat) : decDigits n ≠ [] := by
  fun_cases decDigits n <;> simp

theorem cellOf_int (n : Nat) : cellOf (.int (Int.ofNat n)) = digitText (decDigits n) := by
  simp [cellOf, strInt, fmtInt, fmtNat, natDigits_eq]

/-- `int()` reads a canonical decimal as its number -/
theorem pyInt_decDigits {k : IntClasses} (hk : k.Sane) (n : Nat) :
    pyInt k (digitText (decDigits n)) = some (Int.ofNat n) := by
  rw [pyInt_digits hk _ (decDigits_lt n) (decDigits_ne_nil n), fromDigits_decDigits]

/-- C20 (number cells): a number printed by `str()` and read back by `int()` is the same number,
    and the text `str()` prints for it is again the canonical decimal — a canonical decimal cell
    survives the journey unchanged -/
theorem C20_number_cell {k : IntClasses} (hk : k.Sane) (n : Nat) :
    pyInt k (cellOf (.int (Int.ofNat n))) = some (Int.ofNat n) ∧
    cellOf (.int (Int.ofNat n)) = digitText (decDigits n) :=
  ⟨cellOf_int n ▸ pyInt_decDigits hk n, cellOf_int n⟩

/-- C20 (text cells): `csv.DictWriter` writes `str(value)` -/
theorem C20_text_cell (t : Text) : cellOf (.str t) = t := rfl

/-- C20 (date-time cells): rendered as `YYYY-MM-DD HH:MM:SS`, 19 characters -/
theorem C20_datetime_cell (d : DateTime) : (cellOf (.dt d)).length = 19 := by
  simp only [cellOf, Cli.pad2, List.length_append, List.length_map, length_toDigits, List.length_cons, List.length_nil]

/-- C20 (empty cells): an empty cell is absent from the message, so it cannot come back with a value
    of its own: the encoder never sees it -/
theorem C20_empty_dropped (row : Dict) (k : Key) (h : Dict.get row k = some (.str [])) :
    (k, Val.str []) ∉ row.filter (fun kv => present kv.2) := by
  intro hm
  have := (List.mem_filter.mp hm).2
  simp [present] at this

/-- C20 (whole table): rows are independent — the output table is the row-wise image of the input
    table, so the number and the order of rows are preserved (file level: C06) -/
theorem C20_rows_independent (envW envR : Env) (cfg : Config) (rows : List Dict) (outs : List (List (Key × Text)))
    (h : Outcome.mapO (csvRow envW envR cfg) rows = .ok outs) :
    outs.length = rows.length ∧
    ∀ i (h1 : i < rows.length) (h2 : i < outs.length), csvRow envW envR cfg rows[i] = .ok outs[i] :=
  Outcome.mapO_eq_ok h

/-- C20 (string columns, end to end): for a row without PDS columns whose present cells are well
    formed for their elements (C01's `WFField`), every supplied column comes back with the `str()`
    of C01's expected value — which for an unprocessed string element is the cell itself -/
theorem C20_row_roundtrip {env : Env} (henv : EnvOK env) (cfg : Config) (row : Dict)
    (ds : List Nat) (hds : ∀ d ∈ ds, d < 10) (hl : ds.length = 4)
    (hmti : Dict.get (row.filter (fun kv => present kv.2)) .mti = some (.str (digitText ds)))
    (hnopds : pdsEntriesOf (row.filter (fun kv => present kv.2)) = [])
    (hwf : ElemsWF env cfg (row.filter (fun kv => present kv.2)) allBits) :
    ∃ d, csvRow env env cfg row = .ok (d.map (fun kv => (kv.1, cellOf kv.2))) ∧
      ∀ bit ∈ allBits, ∀ v, Dict.get (row.filter (fun kv => present kv.2)) (.de bit) = some v → present v = true →
        ∃ f exp sub, cfg.get bit = some f ∧
          WFField env bit f v exp sub ∧ Dict.get d (.de bit) = some exp := by
  obtain ⟨bs, d, h1, h2, _, h4, _⟩ := C01.C01_roundtrip henv cfg false _ ds hds hl hmti hnopds hwf
  exact ⟨d, by rw [C20_row_journey, h1, bind_ok_eq, h2, bind_ok_eq], h4⟩

/-- the cell stored under column `k` of an output row -/
def cellAt (out : List (Key × Text)) (k : Key) : Option Text := (out.find? (·.1 == k)).map (·.2)

theorem cellAt_map (d : Dict) (k : Key) :
    cellAt (d.map (fun kv => (kv.1, cellOf kv.2))) k = (Dict.get d k).map cellOf := by
  unfold cellAt Dict.get
  rw [List.find?_map, Option.map_map, Option.map_map]
  rfl

/-- a cell in the form the tools themselves print: text as it is (element without PAN masking),
    a number as its canonical decimal, a date-time as `YYYY-MM-DD HH:MM:SS` -/
inductive CanonCell (f : FieldCfg) : Text → Val → Prop
  | text (t : Text) (h1 : f.proc ≠ .pan) (h2 : f.proc ≠ .panPrefix) : CanonCell f t (.str (transform f t))
  | number (n : Nat) : CanonCell f (digitText (decDigits n)) (.int (Int.ofNat n))
  | date (d : DateTime) : CanonCell f (cellOf (.dt d)) (.dt d)

theorem canon_cell {f : FieldCfg} {t : Text} {exp : Val} (h : CanonCell f t exp) : cellOf exp = t := by
  cases h with
  | text t h1 h2 =>
    rw [transform_of_no_pan h1 h2]; rfl
  | number n => exact cellOf_int n
  | date d => rfl

/-- C20 (end to end, every kind of column): a row without PDS columns whose present cells are well formed and in
    the form the tools print (`CanonCell`) comes back holding, under every supplied column, the cell that went in -/
theorem C20_row_cells {env : Env} (henv : EnvOK env) (cfg : Config) (row : Dict)
    (ds : List Nat) (hds : ∀ d ∈ ds, d < 10) (hl : ds.length = 4)
    (hmti : Dict.get (row.filter (fun kv => present kv.2)) .mti = some (.str (digitText ds)))
    (hnopds : pdsEntriesOf (row.filter (fun kv => present kv.2)) = [])
    (hwf : ElemsWF env cfg (row.filter (fun kv => present kv.2)) allBits)
    (hcanon : ∀ bit f t exp sub, cfg.get bit = some f →
        Dict.get (row.filter (fun kv => present kv.2)) (.de bit) = some (.str t) →
        WFField env bit f (.str t) exp sub → CanonCell f t exp) :
    ∃ out, csvRow env env cfg row = .ok out ∧
      cellAt out .mti = some (digitText ds) ∧
      ∀ bit ∈ allBits, ∀ t, Dict.get (row.filter (fun kv => present kv.2)) (.de bit) = some (.str t) → t ≠ [] →
        cellAt out (.de bit) = some t := by
  obtain ⟨bs, d, h1, h2, h3, h4, _⟩ := C01.C01_roundtrip henv cfg false _ ds hds hl hmti hnopds hwf
  refine ⟨d.map (fun kv => (kv.1, cellOf kv.2)), ?_, ?_, ?_⟩
  · rw [C20_row_journey, h1, bind_ok_eq, h2, bind_ok_eq]
  · rw [cellAt_map, h3]; rfl
  · intro bit hb t hget hne
    have hp : present (.str t) = true := present_str.mpr hne
    obtain ⟨f, exp, sub, hcfg, hw, hd⟩ := h4 bit hb _ hget hp
    rw [cellAt_map, hd, Option.map_some, canon_cell (hcanon bit f t exp sub hcfg hget hw)]

/-- non-vacuity: DE4 of the packaged configuration takes the canonical decimal cell "12" — it is
    well formed (`WFField.intText`) and in printed form (`CanonCell.number`) -/
example (pd : Text → Option DateTime) :
    ∃ f, Gen.bitConfig.get 4 = some f ∧
      WFField (C01.envOf Gen.cp500 pd) 4 f (.str (digitText (decDigits 12))) (.int (Int.ofNat 12)) [] ∧
      CanonCell f (digitText (decDigits 12)) (.int (Int.ofNat 12)) := by
  refine ⟨_, rfl, ?_, CanonCell.number 12⟩
  exact WFField.intText _ 12 rfl rfl rfl (by decide) (fun h => decDigits_ne_nil 12 (List.map_eq_nil_iff.mp h))
    (pyInt_decDigits (C01.envOK_cp500 pd).sane 12) (by decide)

-- sanity test (evaluated): MTI, DE2 with a comma and quotes, DE4 as canonical decimal, DE12 as ISO date-time
#guard
  let env : Env := { classes := Gen.intClasses, codec := Gen.cp500, de43 := fun _ _ => [],
                     parseDate := fun t => if t == [50,48,50,52,45,48,50,45,50,57,32,50,51,58,53,57,58,53,57]
                                            then some ⟨2024, 2, 29, 23, 59, 59⟩ else none }
  (csvRow env env Gen.bitConfig
      [(.mti, .str [49,50,52,48]), (.de 2, .str [44,34,32,34]), (.de 4, .str [49,50]), (.de 3, .str []),
       (.de 12, .str [50,48,50,52,45,48,50,45,50,57,32,50,51,58,53,57,58,53,57])]) ==
    .ok [(.mti, [49,50,52,48]), (.de 2, [44,34,32,34]), (.de 4, [49,50]),
         (.de 12, [50,48,50,52,45,48,50,45,50,57,32,50,51,58,53,57,58,53,57])]

end Cardutil.Props.C20
