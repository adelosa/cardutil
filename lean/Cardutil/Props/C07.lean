import Cardutil.Lemmas.IsoSafe
import Cardutil.Lemmas.Vbs
import Cardutil.Gen.Config
/-
  C07 — decoding never hangs or crashes: any bytes give a result or the library error.

  `Iso.decode env cfg hex msg` is the model of `loads`.  `env` carries the codec tables, the
  character classes of `int()`, the DE43 splitter and the date parser — the theorems hold for
  EVERY such environment (any codec, any behaviour of those functions), every byte string and both
  bitmap renderings.  `escape k` (any non-library exception) and `diverge` (a loop that does not
  terminate) are outcomes of the model; the theorems say they are unreachable.
-/
namespace Cardutil.Props.C07

open Cardutil Cardutil.Iso Cardutil.Vbs
open Cardutil.Outcome (Safe safe_ok safe_cases)

/-- C07(a): message decoding returns a dictionary or raises the library's data error -/
theorem C07_loads (env : Env) (cfg : Config) (hcfg : ConfigOK cfg) (hexBitmap : Bool) (msg : Bytes) :
    (∃ d, decode env cfg hexBitmap msg = .ok d) ∨ decode env cfg hexBitmap msg = .dataError :=
  safe_cases (decode_safe env cfg hcfg hexBitmap msg)

/-- C07(b): the PDS walker terminates on every input (each step consumes at least 7 characters;
    a negative length is rejected instead of moving the pointer backwards) -/
theorem C07_pds_terminates (k : Py.IntClasses) (t : Text) : pdsToDict k t ≠ .diverge :=
  pdsToDict_terminates k t

/-- C07(c): the ICC TLV walker terminates on every input (each step consumes at least 2 bytes) -/
theorem C07_icc_terminates (b : Bytes) : iccToDict b ≠ .diverge :=
  iccToDict_terminates b

/-- C07(d): the typed conversion of an element — string, int / long, decimal or datetime — gives a
    value or the library error for EVERY text: `decimal.InvalidOperation` (which is not a ValueError)
    is caught like the ValueError of `int()` / `strptime` -/
theorem C07_typed_conversion (env : Env) (f : FieldCfg) (t : Text) :
    (∃ v, (stringToPyType env f t).catchAs isConvError = .ok v) ∨
      (stringToPyType env f t).catchAs isConvError = .dataError :=
  safe_cases (stringToPyType_safe env f t)

/-- the packaged configuration is acceptable (re-checked against /repo's config on every run):
    PDS / ICC / DE43 processors sit on string-typed elements -/
theorem packaged_config_ok : ConfigOK Gen.bitConfig := by decide

/-- C07(a) at the packaged configuration -/
theorem C07_loads_packaged (env : Env) (hexBitmap : Bool) (msg : Bytes) :
    (∃ d, decode env Gen.bitConfig hexBitmap msg = .ok d) ∨ decode env Gen.bitConfig hexBitmap msg = .dataError :=
  C07_loads env Gen.bitConfig packaged_config_ok hexBitmap msg

/-- an iteration ending the property allows: end of data, or the library's data error -/
def GoodEnd : End → Prop
  | .eof => True
  | .dataError _ _ => True
  | _ => False

theorem ipmReadAll_file_good {α} (dec : Bytes → Outcome α) (hdec : ∀ r, Safe (dec r)) (P maxLen : Nat) (blocked : Bool)
    (file : Bytes) :
    GoodEnd (if blocked then ipmReadAll (unblockSrc P) maxLen dec (file.length + 1) (init ⟨file, []⟩)
      else ipmReadAll plainSrc maxLen dec (file.length + 1) (init file)).2 := by
  rw [ipmReadAll_recordStream]
  exact ipmReadAll_plain_end dec GoodEnd trivial (fun _ _ => trivial) (fun r k h => nomatch h ▸ hdec r)
    (fun r h => nomatch h ▸ hdec r) _ _ _ 1 none (by have := length_recordStream_le P blocked file; omega)

/-- C07(d): for every file content, iterating a VBS reader (blocked or not) yields records and
    then ends or raises the library's data error — never another exception, never a hang -/
theorem C07_vbs_reader (maxLen : Nat) (blocked : Bool) (file : Bytes) :
    GoodEnd (vbsBytesToList 1012 maxLen blocked file).2 := by
  unfold vbsBytesToList
  simp only [readAll_eq_ipm]
  exact ipmReadAll_file_good .ok (fun r => safe_ok r) 1012 maxLen blocked file

/-- `list(IpmReader(file, …))` -/
def ipmRead (env : Env) (cfg : Config) (maxLen : Nat) (blocked : Bool) (file : Bytes) : List Dict × End :=
  if blocked then ipmReadAll (unblockSrc 1012) maxLen (decode env cfg false) (file.length + 1) (init ⟨file, []⟩)
  else ipmReadAll plainSrc maxLen (decode env cfg false) (file.length + 1) (init file)

/-- C07(e): the same for the IPM reader, for every file content, codec and acceptable configuration -/
theorem C07_ipm_reader (env : Env) (cfg : Config) (hcfg : ConfigOK cfg) (maxLen : Nat) (blocked : Bool) (file : Bytes) :
    GoodEnd (ipmRead env cfg maxLen blocked file).2 :=
  ipmReadAll_file_good _ (fun r => decode_safe env cfg hcfg false r) 1012 maxLen blocked file

/-! ### the command-line wrappers catch the library error only -/

inductive CliResult | done | diagnostic | traceback | hang
  deriving DecidableEq, Repr

/-- `cli_run` of mci_ipm_to_csv / mideu: `try: … except MciIpmDataError: print details; return -1` -/
def cliRun : End → CliResult
  | .eof => .done
  | .dataError _ _ => .diagnostic
  | .escape _ => .traceback
  | .diverge => .hang
  | .fuel => .hang

/-- C07(f): whatever the file, the tools stop with their normal result or a diagnostic -/
theorem C07_cli (env : Env) (cfg : Config) (hcfg : ConfigOK cfg) (maxLen : Nat) (blocked : Bool) (file : Bytes) :
    cliRun (ipmRead env cfg maxLen blocked file).2 = .done ∨
    cliRun (ipmRead env cfg maxLen blocked file).2 = .diagnostic := by
  have h := C07_ipm_reader env cfg hcfg maxLen blocked file
  cases he : (ipmRead env cfg maxLen blocked file).2 <;> simp [he, GoodEnd, cliRun] at h ⊢

/-- non-vacuity: the hypothesis on configurations is satisfiable (the packaged one), and the two
    defect witnesses of the unfixed code now evaluate to the library error in the model -/
example : ConfigOK Gen.bitConfig := packaged_config_ok
#guard pdsToDict Py.asciiClasses [48,48,48,49,45,48,55] == .escape .valueError   -- "0001-07": rejected, not a hang
#guard (iccToDict [0x9a]).catchAs isValueOrStructError == .dataError

end Cardutil.Props.C07
