import Cardutil.Model.Card
import Cardutil.Model.Iso8583
/-
  C16 — masking never discloses more than the first six and last four digits.

  Part 1 (this file, top): the shape of `mask` for every card number of length ≥ 10 over arbitrary
  characters and every mask character.  Part 2 (bottom): decode non-interference under PAN / PAN-PREFIX configurations, over the
  ISO8583 decoder model.
-/
namespace Cardutil.Props.C16

open Cardutil Cardutil.Card

theorem take6_length {pan : Text} (h : 10 ≤ pan.length) : (pan.take 6).length = 6 := by
  rw [List.length_take]; omega

/-- the first six and the fill reach up to the last four -/
theorem head_length {pan : Text} (m : Nat) (h : 10 ≤ pan.length) :
    (pan.take 6 ++ List.replicate (pan.length - 10) m).length = pan.length - 4 := by
  rw [List.length_append, take6_length h, List.length_replicate]
  -- `6 + (L - 10) = 6 + L - (6 + 4) = L - 4`
  exact (Nat.add_sub_assoc h 6).symm.trans (Nat.add_sub_add_left 6 _ 4)

theorem C16_length (pan : Text) (m : Nat) (h : 10 ≤ pan.length) : (mask pan m).length = pan.length := by
  have h4 : 4 ≤ pan.length := Nat.le_trans (by decide) h
  rw [mask, List.length_append, head_length m h, List.length_drop, Nat.sub_sub_self h4, Nat.sub_add_cancel h4]

theorem C16_first6 (pan : Text) (m : Nat) (h : 10 ≤ pan.length) : (mask pan m).take 6 = pan.take 6 := by
  rw [mask, List.append_assoc]
  exact List.take_left' (take6_length h)

theorem C16_last4 (pan : Text) (m : Nat) (h : 10 ≤ pan.length) :
    (mask pan m).drop ((mask pan m).length - 4) = pan.drop (pan.length - 4) := by
  rw [C16_length pan m h]
  exact List.drop_left' (head_length m h)

/-- every position strictly between the first six and the last four holds the mask character:
    no middle character of the input survives, whatever the input characters are -/
theorem C16_middle (pan : Text) (m : Nat) (h : 10 ≤ pan.length) (i : Nat) (h6 : 6 ≤ i)
    (h4 : i < pan.length - 4) : (mask pan m)[i]? = some m := by
  have hl := take6_length h
  have hi : i - 6 < pan.length - 10 := Nat.sub_sub pan.length 4 6 ▸ Nat.sub_lt_sub_right h6 h4
  rw [mask, List.append_assoc, List.getElem?_append_right (Nat.le_trans (Nat.le_of_eq hl) h6), hl,
    List.getElem?_append_left (by rwa [List.length_replicate]), List.getElem?_replicate, if_pos hi]

/-- the masked value is a function of the first six, the last four, the length and the mask
    character only: two numbers agreeing on those mask to the same value (non-disclosure) -/
theorem C16_noninterference (p q : Text) (m : Nat) (hlen : p.length = q.length)
    (h6 : p.take 6 = q.take 6) (h4 : p.drop (p.length - 4) = q.drop (q.length - 4)) :
    mask p m = mask q m := by
  unfold mask; rw [h6, h4, hlen]

/-- PAN-PREFIX keeps the first nine characters only -/
theorem C16_prefix (pan : Text) : panPrefix pan = pan.take 9 ∧ (panPrefix pan).length ≤ 9 :=
  ⟨rfl, by rw [panPrefix, List.length_take]; omega⟩

/-! ### decoding under a masking configuration -/

open Cardutil.Iso in
/-- the decoder sees the decoded text only through `transform`: contents whose transformed texts coincide give the
    same entries -/
theorem decodeTextField_congr {env : Env} {bit : Nat} {f : FieldCfg} {raw raw' : Bytes} {t t' : Text}
    (hd : env.codec.decode raw = some t) (hd' : env.codec.decode raw' = some t')
    (h : transform f t = transform f t') : decodeTextField env bit f raw = decodeTextField env bit f raw' := by
  unfold decodeTextField
  rw [hd, hd']
  simp only [h]

open Cardutil.Iso in
/-- C16 (decode, PAN): for an element configured with the PAN processor, everything the decoder
    returns for it is computed from the MASKED text: two contents that agree on length, first six
    and last four characters decode to the same entries — no middle character can influence, hence
    appear in, the returned dictionary -/
theorem C16_decode_pan (env : Env) (bit : Nat) (f : FieldCfg) (raw raw' : Bytes) (t t' : Text)
    (hproc : f.proc = .pan)
    (hd : env.codec.decode raw = some t) (hd' : env.codec.decode raw' = some t')
    (h10 : 10 ≤ t.length) (hlen : t.length = t'.length)
    (h6 : t.take 6 = t'.take 6) (h4 : t.drop (t.length - 4) = t'.drop (t'.length - 4)) :
    decodeTextField env bit f raw = decodeTextField env bit f raw' :=
  -- 42 is '*', the mask character `transform` passes to `mask`
  decodeTextField_congr hd hd' (by simp only [transform, hproc]; exact C16_noninterference t t' 42 hlen h6 h4)

open Cardutil.Iso in
/-- C16 (decode, PAN-PREFIX): only the first nine characters can influence the result -/
theorem C16_decode_pan_prefix (env : Env) (bit : Nat) (f : FieldCfg) (raw raw' : Bytes) (t t' : Text)
    (hproc : f.proc = .panPrefix)
    (hd : env.codec.decode raw = some t) (hd' : env.codec.decode raw' = some t')
    (h9 : t.take 9 = t'.take 9) :
    decodeTextField env bit f raw = decodeTextField env bit f raw' :=
  decodeTextField_congr hd hd' (by simp only [transform, hproc, panPrefix, h9])

open Cardutil.Iso in
/-- the value stored for the element itself is the masked form / the prefix (string-typed element) -/
theorem C16_decode_value (env : Env) (bit : Nat) (f : FieldCfg) (raw : Bytes) (t : Text)
    (hty : f.pytype = .str) (hd : env.codec.decode raw = some t) (hproc : f.proc = .pan ∨ f.proc = .panPrefix) :
    ∃ sub, decodeTextField env bit f raw = .ok (Dict.update [(Key.de bit, Val.str (transform f t))] sub) ∧
      transform f t = (if f.proc = .pan then mask t 42 else panPrefix t) := by
  unfold decodeTextField
  rw [hd]
  simp only [stringToPyType, hty, Outcome.catchAs, Outcome.bind]
  rcases hproc with hp | hp <;> exact ⟨[], by simp [derived, hp], by simp [transform, hp]⟩

/-- non-vacuity: a 19-digit number -/
example : mask [52,52,52,52,53,53,53,53,54,54,54,54,55,55,55,55,56,56,56] 42 =
    [52,52,52,52,53,53,42,42,42,42,42,42,42,42,42,55,56,56,56] := by decide

end Cardutil.Props.C16
