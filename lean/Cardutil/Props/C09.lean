import Cardutil.Lemmas.Vbs
/-
  C09 — a file cut short at any byte yields only its complete records, then stops / errors.

  For every record list (non-empty records within the maximum) and every cut offset `n`
  (no bound; `n` beyond the end is the whole file), reading `file.take n` yields exactly the
  records wholly contained in the surviving bytes — `recs.take j` where `j` is characterised by
  "the first `j` framed records fit in the surviving (payload) bytes and the `j+1`-th does not" —
  and then ends with end-of-data or the library's data error carrying record number `j+1`.
  `escape`/`diverge`/`fuel` endings are excluded by the statement.
-/
namespace Cardutil.Props.C09

open Cardutil Cardutil.Block

/-- C09 for any payload size, any maximum below 2^32 and both formats: in the stream the reader
    sees the cut falls at `n`, or for a blocked file at `surv P n` (a cut inside a trailer or
    inside fill loses nothing more) -/
theorem C09_cut {P maxLen : Nat} (hP : 0 < P) (hmax : maxLen < lim32) (blocked : Bool) (recs : List Bytes)
    (h : ∀ r ∈ recs, 0 < r.length ∧ r.length ≤ maxLen) (n : Nat) :
    ∃ j e, vbsBytesToList P maxLen blocked ((Writer.listToBytes P blocked recs).take n) = (recs.take j, e) ∧
      j ≤ recs.length ∧
      (vbsBytes (recs.take j)).length ≤ cutAt P blocked n ∧
      (j < recs.length → cutAt P blocked n < (vbsBytes (recs.take (j + 1))).length) ∧
      (e = .eof ∨ ∃ c, e = .dataError (j + 1) c) := by
  obtain ⟨k, hk⟩ := recordStream_listToBytes hP blocked recs
  have hl := length_recordStream_le P blocked ((Writer.listToBytes P blocked recs).take n)
  rw [vbsBytesToList_eq, recordStream_take, hk] at *
  -- fuel: a step per record within the cut; the cut stream holds a byte for each, and is no longer than the cut file
  have hrecs : recs.length ≤ (vbsBytes recs ++ (be32 0 ++ List.replicate k padByte)).length :=
    Nat.le_trans (length_le_vbsBytes recs) (List.length_append ▸ Nat.le_add_right ..)
  exact Vbs.readAll_truncated hmax recs _ h _ _ 1 none (Nat.lt_succ_of_le (Nat.le_trans
    (le_length_take (Nat.min_le_right ..) (Nat.le_trans (Nat.min_le_left ..) hrecs)) hl))

/-- C09 (IPM form): for a file of records that all decode (an IPM file written by the library),
    iterating an IPM reader over ANY truncation yields exactly the decodings of the records wholly
    contained in the surviving bytes, in order, then end-of-data or the library's data error — for
    any message decoder `dec`, both formats -/
theorem C09_ipm (blocked : Bool) {α} (dec : Bytes → Outcome α) (val : Bytes → α) (recs : List Bytes)
    (h : ∀ r ∈ recs, 0 < r.length ∧ r.length ≤ 6000) (hdec : ∀ r ∈ recs, dec r = .ok (val r)) (n : Nat) :
    ∃ j e,
      (if blocked then
          Vbs.ipmReadAll (unblockSrc 1012) 6000 dec (((Writer.listToBytes 1012 blocked recs).take n).length + 1)
            (Vbs.init ⟨(Writer.listToBytes 1012 blocked recs).take n, []⟩)
        else
          Vbs.ipmReadAll plainSrc 6000 dec (((Writer.listToBytes 1012 blocked recs).take n).length + 1)
            (Vbs.init ((Writer.listToBytes 1012 blocked recs).take n))) = ((recs.take j).map val, e) ∧
      (e = .eof ∨ ∃ c, e = .dataError (j + 1) c) := by
  obtain ⟨j, e, hr, _, _, _, he⟩ := C09_cut (P := 1012) (by decide) (by decide) blocked recs h n
  refine ⟨j, e, ?_, he⟩
  rw [vbsBytesToList_eq, ← List.map_id (recs.take j)] at hr
  rw [ipmReadAll_recordStream]
  exact Vbs.ipmReadAll_of_readAll hr (Outcome.mapO_map_ok dec id val _ fun r hr' => hdec r (List.mem_of_mem_take hr'))

-- sanity tests (evaluated): cut inside the second record, and inside the second length prefix
#guard vbsBytesToList 1012 6000 false ((Writer.listToBytes 1012 false [[1, 2], [3, 4, 5]]).take 12) ==
  ([[1, 2]], .dataError 2 [0, 0, 0, 3, 3, 4])
#guard vbsBytesToList 1012 6000 false ((Writer.listToBytes 1012 false [[1, 2], [3, 4, 5]]).take 8) == ([[1, 2]], .eof)

end Cardutil.Props.C09
