import Cardutil.Props.C01
/-
  C02 — ISO8583 wire format conforms to the documented layout, in both directions.

  The layout is stated absolutely (not relative to the decoder): MTI bytes, then the 128 flags
  `flagsOf pres` (bit 1 always set, bit n set iff element n is emitted) as 16 bytes — or their 32
  lowercase hex characters — then the emitted elements in ascending order, each `Rendered`.
  A symmetric error of encoder and decoder (bit order, prefix width, padding side) would violate
  these statements even though the round trip (C01) would still hold.
-/
namespace Cardutil.Props.C02

open Cardutil Cardutil.Iso Cardutil.Py Cardutil.Digits

/-- the documented rendering of one element -/
inductive Rendered (env : Env) (f : FieldCfg) : Val → Bytes → Prop
  /-- fixed text: left-justified, space-padded (or cut) to exactly the field width, in the codec -/
  | fixedText (t : Text) (bs : Bytes) (hty : f.pytype = .str) (hls : f.prefixLen = 0)
      (henc : env.codec.encode (t.take f.length ++ List.replicate (f.length - (t.take f.length).length) 32) = some bs) :
      Rendered env f (.str t) bs
  /-- variable text: two- or three-digit decimal count, then exactly that many bytes -/
  | varText (t : Text) (p body : Bytes) (hty : f.pytype = .str) (hls : 0 < f.prefixLen)
      (hcount : t.length < 10 ^ f.prefixLen)
      (hp : env.codec.encode (digitText (toDigits 10 f.prefixLen t.length)) = some p)
      (hbody : env.codec.encode t = some body) :
      Rendered env f (.str t) (p ++ body)
  /-- fixed number: zero-padded decimal of exactly the field width -/
  | fixedInt (n : Nat) (bs : Bytes) (hty : f.pytype = .int) (hls : f.prefixLen = 0) (hw : 0 < f.length)
      (hn : n < 10 ^ f.length)
      (henc : env.codec.encode (digitText (toDigits 10 f.length n)) = some bs) :
      Rendered env f (.int (Int.ofNat n)) bs
  /-- variable binary (ICC): count, then the bytes untouched -/
  | varBytes (b p : Bytes) (hty : f.pytype = .str) (hls : 0 < f.prefixLen) (hcount : b.length < 10 ^ f.prefixLen)
      (hp : env.codec.encode (digitText (toDigits 10 f.prefixLen b.length)) = some p) :
      Rendered env f (.bytes b) (p ++ b)

/-- C02(a), per element: whenever an element is encoded, its bytes are the documented rendering -/
theorem C02_element_layout (env : Env) (f : FieldCfg) (v : Val) (bs : Bytes) (h : encodeField env f v = .ok bs)
    (hty : f.pytype = .str ∨ (f.pytype = .int ∧ f.prefixLen = 0 ∧ 0 < f.length ∧ ∃ n, v = .int (Int.ofNat n) ∧ n < 10 ^ f.length))
    (hv : (∃ t, v = .str t) ∨ (∃ b, v = .bytes b ∧ 0 < f.prefixLen) ∨ ∃ n, v = .int (Int.ofNat n)) :
    Rendered env f v bs := by
  rcases hty with hty | ⟨hty, hls, hw, n, rfl, hn⟩
  · have hs := pyTypeToString_str env v hty
    rcases hv with ⟨t, rfl⟩ | ⟨b, rfl, hls⟩ | ⟨n, rfl⟩
    · rcases Nat.eq_zero_or_pos f.prefixLen with hls | hls
      · rw [encodeField_str_fixed hs hls] at h
        exact .fixedText t bs hty hls (encodeText_eq_ok.mp h)
      · rw [encodeField_str_var hs hls] at h
        split at h
        · cases h
        · have hlt : t.length < 10 ^ f.prefixLen := Nat.lt_of_not_le ‹_›
          obtain ⟨p, hp, h⟩ := Outcome.bind_eq_ok.mp h
          obtain ⟨body, hb, h⟩ := Outcome.bind_eq_ok.mp h
          cases h
          rw [fmtInt_ofNat_eq hls hlt] at hp
          exact .varText t p body hty hls hlt (encodeText_eq_ok.mp hp) (encodeText_eq_ok.mp hb)
    · rw [encodeField_bytes_var hs hls] at h
      split at h
      · cases h
      · have hlt : b.length < 10 ^ f.prefixLen := Nat.lt_of_not_le ‹_›
        obtain ⟨p, hp, h⟩ := Outcome.bind_eq_ok.mp h
        cases h
        rw [fmtInt_ofNat_eq hls hlt] at hp
        exact .varBytes b p hty hls hlt (encodeText_eq_ok.mp hp)
    · -- a number under a string-typed element is not encoded at all
      simp [encodeField, pyTypeToString, hty, Outcome.bind] at h
  · have hs : pyTypeToString env f (.int (Int.ofNat n)) = .ok (.str (fmtInt f.length (Int.ofNat n))) := by
      simp only [pyTypeToString, hty]
    rw [encodeField_str_fixed hs hls, fmtInt_ofNat_eq hw hn, fitLeft_of_length (by simp [digitText])] at h
    exact .fixedInt n _ hty hls hw hn (encodeText_eq_ok.mp h)

/-- C02(b): a variable-length value longer than its prefix can count is REFUSED with the library
    error, never emitted with a malformed prefix — text and binary, LLVAR (≥ 100) and LLLVAR (≥ 1000) -/
theorem C02_refuses_overlong_text (env : Env) (f : FieldCfg) (t : Text) (hty : f.pytype = .str) (hls : 0 < f.prefixLen)
    (h : 10 ^ f.prefixLen ≤ t.length) : encodeField env f (.str t) = .dataError := by
  rw [encodeField_str_var (pyTypeToString_str env _ hty) hls, if_pos h]

theorem C02_refuses_overlong_bytes (env : Env) (f : FieldCfg) (b : Bytes) (hty : f.pytype = .str) (hls : 0 < f.prefixLen)
    (h : 10 ^ f.prefixLen ≤ b.length) : encodeField env f (.bytes b) = .dataError := by
  rw [encodeField_bytes_var (pyTypeToString_str env _ hty) hls, if_pos h]

/-- … and conversely nothing representable is refused: the prefix widths are exactly 2 and 3 -/
theorem C02_prefix_widths (f : FieldCfg) :
    (f.ftype = .llvar → f.prefixLen = 2) ∧ (f.ftype = .lllvar → f.prefixLen = 3) ∧ (f.ftype = .fixed → f.prefixLen = 0) := by
  refine ⟨?_, ?_, ?_⟩ <;> intro h <;> simp [FieldCfg.prefixLen, h]

/-- the elements are emitted in ascending order of the bit list, each followed by the next:
    `encodeBits` output is the concatenation of the individual element encodings of exactly the
    present elements -/
theorem C02_elements_in_order (env : Env) (cfg : Config) (m : Dict) (bits pres : List Nat) (data : Bytes)
    (h : encodeBits env cfg m bits = .ok (pres, data)) :
    pres.Sublist bits ∧
    (∀ b ∈ pres, ∃ v, Dict.get m (.de b) = some v ∧ present v = true) ∧
    (∀ b ∈ bits, ∀ v, Dict.get m (.de b) = some v → present v = true → b ∈ pres) ∧
    ∃ parts : List Bytes, data = parts.flatten ∧ parts.length = pres.length ∧
      ∀ i (hi : i < pres.length) (hi' : i < parts.length), ∃ f v, cfg.get pres[i] = some f ∧
        Dict.get m (.de pres[i]) = some v ∧ encodeField env f v = .ok parts[i] := by
  rw [encodeBits_eq] at h
  obtain ⟨parts, hparts, h⟩ := Outcome.bind_eq_ok.mp h
  cases h
  obtain ⟨hlen, hi⟩ := Outcome.mapO_eq_ok hparts
  refine ⟨List.filter_sublist, fun b hb => (mem_emitted.mp hb).2, fun b hb v hv hp => mem_emitted.mpr ⟨hb, v, hv, hp⟩,
    parts, rfl, hlen, fun i h1 h2 => ?_⟩
  obtain ⟨_, v, hv, hp⟩ := mem_emitted.mp (List.getElem_mem h1)
  obtain ⟨f, hf, henc⟩ := (encodeElem_eq_ok hv hp).mp (hi i h1 h2)
  exact ⟨f, v, hf, hv, henc⟩

/-- C02(a), whole message: the bytes are MTI ++ bitmap ++ elements; the bitmap is the 16 bytes of the 128 flags or
    their 32 lowercase hex characters, and the flags read back from the bytes are those flags -/
theorem C02_message_layout (env : Env) (cfg : Config) (hexBitmap : Bool) (m : Dict) (bs : Bytes)
    (h : encodeCore env cfg hexBitmap m = .ok bs) :
    ∃ mti pres data, encodeMti env m = .ok mti ∧ encodeBits env cfg m allBits = .ok (pres, data) ∧
      bs = mti ++ (if hexBitmap then hexlify (bytesOfBits (flagsOf pres)) else bytesOfBits (flagsOf pres)) ++ data ∧
      bitsOfBytes (bytesOfBits (flagsOf pres)) = flagsOf pres ∧
      (flagsOf pres)[0]? = some true ∧
      (∀ n, 2 ≤ n → n ≤ 128 → ((flagsOf pres)[n - 1]? = some true ↔ n ∈ pres)) := by
  obtain ⟨⟨pres, data⟩, hb, h⟩ := Outcome.bind_eq_ok.mp h
  obtain ⟨mti, hm, h⟩ := Outcome.bind_eq_ok.mp h
  cases h
  refine ⟨mti, pres, data, hm, hb, rfl, bitsOfBytes_bytesOfBits 16 _ (flagsOf_length _), flagsOf_getElem? pres (by decide),
    fun n h2 h128 => ?_⟩
  -- `n = k + 2`: flag `k + 1`, which is not flag 0
  obtain ⟨k, rfl⟩ := Nat.exists_eq_add_of_le' h2
  show (flagsOf pres)[k + 1]? = _ ↔ _
  rw [flagsOf_getElem? pres h128]
  simp

/-- hex rendering: 32 characters, all lowercase hex digits -/
theorem C02_hex_bitmap (pres : List Nat) :
    (hexlify (bitmapOf pres)).length = 32 ∧
    ∀ c ∈ hexlify (bitmapOf pres), (48 ≤ c ∧ c ≤ 57) ∨ (97 ≤ c ∧ c ≤ 102) :=
  ⟨by rw [hexlify_length, bitmapOf_length], hexlify_lower _⟩

/-- C02(c): decoding a message of that layout returns the values it carries plus the derived
    entries: this is C01's statement (the bytes produced by the encoder ARE of the layout, by
    C02(a)), restated here for the reading direction -/
theorem C02_reads_layout {env : Env} (henv : EnvOK env) (cfg : Config) (hexBitmap : Bool) (m : Dict)
    (ds : List Nat) (hds : ∀ d ∈ ds, d < 10) (hl : ds.length = 4)
    (hmti : Dict.get m .mti = some (.str (digitText ds)))
    (hnopds : pdsEntriesOf m = [])
    (hwf : ElemsWF env cfg m allBits) :
    ∃ bs d, encode env cfg hexBitmap m = .ok bs ∧ decode env cfg hexBitmap bs = .ok d ∧
      (∀ bit ∈ allBits, ∀ v, Dict.get m (.de bit) = some v → present v = true →
        ∃ f exp sub, cfg.get bit = some f ∧ WFField env bit f v exp sub ∧ Dict.get d (.de bit) = some exp) := by
  obtain ⟨bs, d, h1, h2, _, h4, _⟩ := C01.C01_roundtrip henv cfg hexBitmap m ds hds hl hmti hnopds hwf
  exact ⟨bs, d, h1, h2, h4⟩

-- sanity tests (evaluated): documentation vectors
#guard
  let env := C01.envOf Gen.latin_1 (fun _ => none)
  encode env Gen.bitConfig true [(.mti, .str [49,49,52,52]), (.de 2, .str [52,52,52,52])] ==
    .ok ([49,49,52,52] ++ [99,48,48,48,48,48,48,48,48,48,48,48,48,48,48,48,48,48,48,48,48,48,48,48,48,48,48,48,48,48,48,48] ++ [48,52,52,52,52,52])
#guard
  let env := C01.envOf Gen.latin_1 (fun _ => none)
  encode env Gen.bitConfig false [(.mti, .str [49,49,52,52]), (.de 2, .str (List.replicate 100 52))] == .dataError

end Cardutil.Props.C02
