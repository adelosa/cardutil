import Cardutil.Lemmas.Vbs
import Cardutil.Props.C03
import Cardutil.Props.C01
/-
  C06 — IPM file round trip: messages written are the messages read back.

  Stated for any message encoder `enc` and decoder `dec` related by a per-message round trip
  `dec (enc m) = ok (expected m)` — which is C01's conclusion for the ISO8583 model — so the file
  level adds no condition of its own beyond "each encoded message is non-empty and within the
  maximum record length".  Any number of records, any mix of message shapes, VBS and 1014.
-/
namespace Cardutil.Props.C06

open Cardutil Cardutil.Block Cardutil.Vbs

/-- `IpmWriter`: encode each message, hand the record to the VBS writer, close once -/
def ipmWrite {μ} (enc : μ → Outcome Bytes) (blocked : Bool) (msgs : List μ) : Outcome Bytes :=
  (Outcome.mapO enc msgs).bind (fun recs => .ok (Writer.listToBytes 1012 blocked recs))

/-- `list(IpmReader(file))` -/
def ipmRead {α} (dec : Bytes → Outcome α) (maxLen : Nat) (blocked : Bool) (file : Bytes) : List α × End :=
  if blocked then ipmReadAll (unblockSrc 1012) maxLen dec (file.length + 1) (init ⟨file, []⟩)
  else ipmReadAll plainSrc maxLen dec (file.length + 1) (init file)

/-- C06: any sequence of messages written to an IPM file and read back with the same encoding,
    blocking and configuration is returned as the same sequence (of expected values), then end of
    data — for both formats. -/
theorem C06_file_roundtrip {μ α} (enc : μ → Outcome Bytes) (dec : Bytes → Outcome α) (expected : μ → α)
    (recOf : μ → Bytes) (maxLen : Nat) (hmax : maxLen < 4294967296) (blocked : Bool) (msgs : List μ)
    (henc : ∀ m ∈ msgs, enc m = .ok (recOf m) ∧ 0 < (recOf m).length ∧ (recOf m).length ≤ maxLen)
    (hdec : ∀ m ∈ msgs, dec (recOf m) = .ok (expected m)) :
    ∃ file, ipmWrite enc blocked msgs = .ok file ∧
      ipmRead dec maxLen blocked file = (msgs.map expected, .eof) := by
  refine ⟨Writer.listToBytes 1012 blocked (msgs.map recOf), ?_, ?_⟩
  · have := Outcome.mapO_map_ok enc id recOf msgs fun m hm => (henc m hm).1
    rw [List.map_id] at this
    rw [ipmWrite, this]; rfl
  · have hrecs : ∀ r ∈ msgs.map recOf, 0 < r.length ∧ r.length ≤ maxLen := by
      intro r hr
      obtain ⟨m, hm, rfl⟩ := List.mem_map.mp hr
      exact (henc m hm).2
    have hr := C03.C03_roundtrip_any (P := 1012) (by decide) hmax blocked _ hrecs
    rw [vbsBytesToList_eq] at hr
    rw [ipmRead, ipmReadAll_recordStream]
    exact ipmReadAll_of_readAll hr (Outcome.mapO_map_ok dec recOf expected msgs hdec)

/-- instance isolation, as far as the functional model can state it: an operation on one
    reader/writer state never changes another state (states are values; there is no shared cell).
    That the Python classes keep their state per instance is established by the correspondence
    check, which drives 2–4 interleaved instances against this per-instance model. -/
theorem C06_states_independent {σ τ} (f : σ → σ) (s : σ) (t : τ) : (f s, t).2 = t := rfl

-- sanity test (evaluated): record lengths read back through a blocked file
#guard ipmRead (fun r => (.ok r.length : Outcome Nat)) 6000 true (Writer.listToBytes 1012 true [[1, 2, 3], [4]]) ==
  ([3, 1], .eof)

open Cardutil.Iso Cardutil.Py Cardutil.Digits in
/-- a message the property speaks of: 4-digit MTI, no PDS keys, present elements well formed -/
def MsgOK (env : Env) (cfg : Config) (m : Dict) : Prop :=
  ∃ ds : List Nat, (∀ d ∈ ds, d < 10) ∧ ds.length = 4 ∧ Dict.get m .mti = some (.str (digitText ds)) ∧
    pdsEntriesOf m = [] ∧ ElemsWF env cfg m allBits

open Cardutil.Iso Cardutil.Py Cardutil.Digits in
/-- C06 at full strength for the ISO8583 codec: any list of well-formed messages (C01's domain)
    whose encodings are within the maximum record length, written by `IpmWriter` and read back by
    `IpmReader` with the same encoding, blocking and configuration, is returned as the same number
    of dictionaries, in the same order, each with the MTI and every present element of its message
    (C01's expected value) — VBS or 1014, any number of records and blocks -/
theorem C06_messages {env : Env} (henv : EnvOK env) (cfg : Config) (maxLen : Nat) (hmax : maxLen < 4294967296)
    (blocked : Bool) (msgs : List Dict)
    (hm : ∀ m ∈ msgs, MsgOK env cfg m)
    (hlen : ∀ m ∈ msgs, ∀ b, encode env cfg false m = .ok b → b.length ≤ maxLen) :
    ∃ file ds, ipmWrite (encode env cfg false) blocked msgs = .ok file ∧
      ipmRead (decode env cfg false) maxLen blocked file = (ds, .eof) ∧
      ds.length = msgs.length ∧
      ∀ i (h1 : i < msgs.length) (h2 : i < ds.length),
        Dict.get ds[i] .mti = Dict.get msgs[i] .mti ∧
        ∀ bit ∈ allBits, ∀ v, Dict.get msgs[i] (.de bit) = some v → present v = true →
          ∃ f exp sub, cfg.get bit = some f ∧ WFField env bit f v exp sub ∧
            Dict.get ds[i] (.de bit) = some exp := by
  -- `C06_file_roundtrip` takes the record and the value read back as functions of the message: they are read off the
  -- two outcomes (the `[]` branches are never met for a message of `msgs`, by `hper`)
  let recOf : Dict → Bytes := fun m => match encode env cfg false m with | .ok b => b | _ => []
  let expected : Dict → Dict := fun m => match decode env cfg false (recOf m) with | .ok d => d | _ => []
  -- per message, C01: it encodes to `recOf m`, which decodes to `expected m`, and that holds what C01 says
  have hper : ∀ m ∈ msgs, encode env cfg false m = .ok (recOf m) ∧ 0 < (recOf m).length ∧
      decode env cfg false (recOf m) = .ok (expected m) ∧ Dict.get (expected m) .mti = Dict.get m .mti ∧
      ∀ bit ∈ allBits, ∀ v, Dict.get m (.de bit) = some v → present v = true →
        ∃ f exp sub, cfg.get bit = some f ∧ WFField env bit f v exp sub ∧ Dict.get (expected m) (.de bit) = some exp := by
    intro m hmm
    obtain ⟨ds, hds, hl, hmti, hnopds, hwf⟩ := hm m hmm
    obtain ⟨bs, d, h1, h2, h3, h4, -⟩ := C01.C01_roundtrip henv cfg false m ds hds hl hmti hnopds hwf
    have hr : recOf m = bs := by simp only [recOf, h1]
    have he : expected m = d := by simp only [expected, hr, h2]
    rw [hr, he]
    refine ⟨h1, ?_, h2, h3.trans hmti.symm, h4⟩
    -- not empty: the record holds the 16 bytes of the bitmap
    obtain ⟨parts, _, mti, _, rfl⟩ := encodeCore_eq_ok.mp (C01.encode_no_pds _ _ _ _ hnopds ▸ h1)
    have := bitmapOf_length (emitted m allBits)
    simp only [bitmapBytes, Bool.false_eq_true, if_false, List.length_append]
    omega
  -- all that is needed of the two functions is in `hper`; with their bodies in reach the last step compares them unfolded
  clear_value recOf expected
  obtain ⟨file, hw, hrd⟩ := C06_file_roundtrip (encode env cfg false) (decode env cfg false) expected recOf
    maxLen hmax blocked msgs
    (fun m hmm => ⟨(hper m hmm).1, (hper m hmm).2.1, hlen m hmm _ (hper m hmm).1⟩)
    (fun m hmm => (hper m hmm).2.2.1)
  refine ⟨file, msgs.map expected, hw, hrd, by simp, fun i h1 h2 => ?_⟩
  rw [List.getElem_map]
  exact (hper _ (List.getElem_mem h1)).2.2.2

open Cardutil.Iso in
/-- non-vacuity of `C06_messages`: two copies of C01's sample message under cp500 and the packaged
    configuration meet every hypothesis (the encoding is 42 bytes, evaluated by the kernel) -/
example : let env := C01.envOf Gen.cp500 (fun _ => none)
    (∀ m ∈ [C01.sampleMsg, C01.sampleMsg], MsgOK env Gen.bitConfig m) ∧
    (∀ m ∈ [C01.sampleMsg, C01.sampleMsg], ∀ b, encode env Gen.bitConfig false m = .ok b → b.length ≤ 6000) := by
  intro env
  -- only the length is asked for: 4 bytes of MTI, 16 of bitmap, 2 + 8 of DE2, 12 of DE4
  have henc : (encode env Gen.bitConfig false C01.sampleMsg).bind (fun b => .ok b.length) = .ok 42 := by
    decide +kernel
  refine ⟨?_, ?_⟩
  · intro m hm
    have : m = C01.sampleMsg := by simpa using hm
    subst this
    exact ⟨[1,1,4,4], by decide, rfl, rfl, rfl, C01.sample_wf _ _ (Or.inr (Or.inl rfl)) _ rfl rfl⟩
  · intro m hm b h
    have : m = C01.sampleMsg := by simpa using hm
    subst this
    rw [h] at henc
    exact Nat.le_trans (Nat.le_of_eq (Outcome.ok.inj henc)) (by decide)

end Cardutil.Props.C06
