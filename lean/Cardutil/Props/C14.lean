import Cardutil.Lemmas.Pin
import Cardutil.Lemmas.Des
/-
  C14 — PVV, key check value and key-part combination match the published algorithms.

  The block cipher (3DES-ECB of one 8-byte block / of 16 zero bytes / of the combined key) is a
  PARAMETER `enc` of every statement: the theorems hold for every function, hence for 3DES under
  every key.  That the implementation calls 3DES-ECB with the right key and data is tied by the
  correspondence check against a from-scratch DES reference (harness/refdes.py).
-/
namespace Cardutil.Props.C14

open Cardutil Cardutil.Pin Cardutil.Digits

/-- the transformed security parameter: 11 rightmost PAN digits excluding the check digit, the key
    index, the LEFTMOST FOUR PIN digits — 16 digits for every PIN of 4 or more digits -/
theorem C14_tsp (pan idx pin : Text) :
    tsp pan idx pin = (pan.take (pan.length - 1)).drop (pan.length - 12) ++ idx ++ pin.take 4 := rfl

theorem C14_tsp_length (pan idx pin : Text) (hpan : 12 ≤ pan.length) (hidx : idx.length = 1)
    (hpin : 4 ≤ pin.length) : (tsp pan idx pin).length = 16 := by
  rw [C14_tsp, List.length_append, List.length_append, List.length_drop, List.length_take_of_le (Nat.sub_le ..), hidx,
    List.length_take_of_le hpin]
  -- with `pan.length = a + 12` the first summand is `a + 11 - a`
  obtain ⟨a, ha⟩ := Nat.exists_eq_add_of_le' hpan
  rw [ha]
  show a + 11 - a + 1 + 4 = 16
  rw [Nat.add_sub_cancel_left]

/-- the PVV computation succeeds (no cipher-input error) for every PIN of 4–12 digits (indeed of
    any length ≥ 4), every PAN of ≥ 12 digits and every key index digit -/
theorem C14_pvv_defined (enc : Bytes → Bytes) (pan idx pin : Text) (hpan : AllDigits pan)
    (hidx : AllDigits idx) (hpin : AllDigits pin) (hl : 12 ≤ pan.length) (hi : idx.length = 1)
    (hp : 4 ≤ pin.length) :
    ∃ block, block.length = 8 ∧
      pvv enc pin idx pan = .ok (decimalise (bytesToNibbles (enc block))) := by
  have hd : AllDigits (tsp pan idx pin) := List.forall_mem_append.mpr
    ⟨List.forall_mem_append.mpr ⟨hpan.slice _ _, hidx⟩, fun c h => hpin c (List.mem_of_mem_take h)⟩
  obtain ⟨block, hu, hbl, -⟩ := unhexlify_parsed (n := 8) (parseHexText_digits _ hd)
    (by rw [List.length_map, C14_tsp_length pan idx pin hl hi hp])
  exact ⟨block, hbl, by rw [pvv, hu]; rfl⟩

/-- decimalisation: first scan keeps the decimal digits in order; if fewer than four were found a
    second scan maps A–F to 0–5 in order; the result is ALWAYS four decimal digits -/
theorem C14_decimalise (ct : List Nat) (hlen : ct.length = 16) (hct : ∀ n ∈ ct, n < 16) :
    (decimalise ct).length = 4 ∧ AllDigits (decimalise ct) ∧
    decimalise ct =
      (if 4 ≤ (ct.filter (· < 10)).length then ((ct.filter (· < 10)).map (48 + ·)).take 4
       else ((ct.filter (· < 10)).map (48 + ·) ++ (ct.filter (fun n => decide (10 ≤ n))).map (fun n => 48 + (n - 10))).take 4) := by
  -- every hex digit is found by one of the two scans
  have hsplit : (ct.filter (· < 10)).length + (ct.filter (fun n => decide (10 ≤ n))).length = 16 := by
    rw [← hlen, ← filter_split_length (fun n => decide (n < 10)) ct]
    exact congrArg _ (congrArg _ (List.filter_congr fun x _ => (decide_eq_decide.mpr Nat.not_lt.symm).trans decide_not))
  rw [decimalise_eq_take]
  refine ⟨?_, fun c hc => ?_, ?_⟩
  · rw [List.length_take, List.length_append, List.length_map, List.length_map, hsplit]
    rfl
  · rcases List.mem_append.mp (List.mem_of_mem_take hc) with h | h <;> obtain ⟨n, hn, rfl⟩ := List.mem_map.mp h
    · have := of_decide_eq_true (List.mem_filter.mp hn).2
      omega
    · have := hct n (List.mem_filter.mp hn).1
      have := of_decide_eq_true (List.mem_filter.mp hn).2
      omega
  · split
    · exact List.take_append_of_le_length (by rwa [List.length_map])
    · rfl

/-- combining key components is their XOR: independent of the order of the components … -/
theorem C14_combine_order {a b : List Nat} (h : a.Perm b) : combineVal a = combineVal b :=
  combineVal_perm h

/-- … and a component given twice cancels -/
theorem C14_combine_cancel (p : Nat) (ps : List Nat) : combineVal (p :: p :: ps) = combineVal ps := by
  rw [combineVal_cons, combineVal_cons, ← Nat.xor_assoc, Nat.xor_self, Nat.zero_xor]

/-- components of any lengths: the clear key is as wide as the widest component, at least 32 digits -/
theorem C14_combine_text_any (parts : List (List Nat)) (h : ∀ p ∈ parts, p ≠ [] ∧ ∀ n ∈ p, n < 16) :
    combine (parts.map (·.map hexChar)) =
      .ok ((toDigits 16 (combineWidth (parts.map (·.map hexChar))) (combineVal (parts.map (fromDigits 16)))).map hexChar) := by
  rw [combine_eq_toDigits, Outcome.mapO_map_ok _ _ _ parts (fun p hp => intHex_hexChars (h p hp).1 (h p hp).2)]
  rfl

/-- text level: components of `L ≥ 32` hex digits each (32 for double-, 48 for triple-length keys) give
    an `L`-hex-digit clear key whose nibbles are the value's base-16 digits -/
theorem C14_combine_text_w (L : Nat) (hL : 32 ≤ L) (parts : List (List Nat))
    (h : ∀ p ∈ parts, p.length = L ∧ ∀ n ∈ p, n < 16) (hne : parts ≠ [] ∨ L = 32) :
    combine (parts.map (·.map hexChar)) =
      .ok ((toDigits 16 L (combineVal (parts.map (fromDigits 16)))).map hexChar) := by
  -- the width is the widest component, and 32 without any: hence `hne`
  have hw : combineWidth (parts.map (·.map hexChar)) = L := by
    rw [combineWidth, foldl_max_same (L := L) _ 32 (List.forall_mem_map.mpr fun q hq => by rw [List.length_map, (h q hq).1])]
    split
    next hnil => exact (hne.resolve_left fun hp => hp (List.map_eq_nil_iff.mp hnil)).symm
    next => exact Nat.max_eq_right hL
  have hpos : 0 < L := Nat.lt_of_lt_of_le (by decide) hL
  rw [C14_combine_text_any parts fun p hp => ⟨List.ne_nil_of_length_pos ((h p hp).1 ▸ hpos), (h p hp).2⟩, hw]

/-- two components: the clear key's nibbles are the nibble-wise XOR of the components' nibbles -/
theorem C14_combine_two (a b : List Nat) (ha : a.length = 32 ∧ ∀ n ∈ a, n < 16) (hb : b.length = 32 ∧ ∀ n ∈ b, n < 16) :
    combine [a.map hexChar, b.map hexChar] = .ok ((List.zipWith (· ^^^ ·) a b).map hexChar) := by
  have := C14_combine_text_w 32 (Nat.le_refl _) [a, b] (by intro p hp; simp at hp; rcases hp with rfl | rfl <;> assumption)
    (Or.inr rfl)
  simp only [List.map_cons, List.map_nil] at this
  rw [this, combineVal_cons, combineVal_singleton, toDigits_xor 4, toDigits_fromDigits_of_length ha.2 ha.1,
    toDigits_fromDigits_of_length hb.2 hb.1]

/-- the key check value is the leading hex digits of the encryption of zeros under the key -/
theorem C14_kcv (enc : Bytes → Bytes) (n : Nat) :
    kcv enc n = ((bytesToNibbles (enc (List.replicate 16 0))).map hexChar).take n := rfl

/-! ### the PVV with Triple DES itself as the cipher -/

open Cardutil.Des (tdesFn)

theorem C14_pvv_digits (enc : Bytes → Bytes) (henc : ∀ b : Bytes, b.length = 8 → (enc b).length = 8 ∧ ∀ x ∈ enc b, x < 256)
    (pan idx pin : Text) (hpan : AllDigits pan) (hidx : AllDigits idx) (hpin : AllDigits pin)
    (hl : 12 ≤ pan.length) (hi : idx.length = 1) (hp : 4 ≤ pin.length) :
    ∃ v, pvv enc pin idx pan = .ok v ∧ v.length = 4 ∧ AllDigits v := by
  obtain ⟨block, hbl, hv⟩ := C14_pvv_defined enc pan idx pin hpan hidx hpin hl hi hp
  have := C14_decimalise _ (by rw [bytesToNibbles_length, (henc block hbl).1]) (bytesToNibbles_lt (henc block hbl).2)
  exact ⟨_, hv, this.1, this.2.1⟩

/-- C14, PVV, with the cipher inside the model: for every PVV key of 8, 16 or 24 bytes, every PIN of at least four
    digits, every PAN of at least twelve digits and every key index digit, the PVV is defined and consists of exactly
    four decimal digits — the two-scan decimalisation of the Triple DES encryption of the TSP -/
theorem C14_pvv_tdes (key : Bytes) (hk : key.length = 8 ∨ key.length = 16 ∨ key.length = 24)
    (pan idx pin : Text) (hpan : AllDigits pan) (hidx : AllDigits idx) (hpin : AllDigits pin)
    (hl : 12 ≤ pan.length) (hi : idx.length = 1) (hp : 4 ≤ pin.length) :
    ∃ v, pvv (tdesFn key) pin idx pan = .ok v ∧ v.length = 4 ∧ AllDigits v :=
  C14_pvv_digits (tdesFn key) (fun b hb => by
    obtain ⟨_, hlen, hbytes⟩ := Des.tdesFn_spec key b hk (by rw [hb])
    exact ⟨hlen.trans hb, hbytes⟩) pan idx pin hpan hidx hpin hl hi hp

-- the module documentation's value: PIN 1234, PAN 1111222233334444, key index 1, key 00 x 16 -> PVV 6264
#guard pvv (tdesFn (List.replicate 16 0)) [49,50,51,52] [49] [49,49,49,49,50,50,50,50,51,51,51,51,52,52,52,52] == .ok [54, 50, 54, 52]
-- the key check value of the all-zero double-length key: 8ca64d
#guard kcv (tdesFn (List.replicate 16 0)) 6 == [56, 99, 97, 54, 52, 100]

/-- non-vacuity / known answer: ct = 0FFFFFFFFFFF5F1A needs the second scan for two digits -/
example : decimalise [0, 15, 15, 15, 15, 15, 15, 15, 15, 15, 15, 15, 5, 15, 1, 10] = [48, 53, 49, 53] := by decide
example : decimalise [10, 11, 12, 13, 14, 15, 10, 10, 10, 10, 10, 10, 10, 10, 10, 10] = [48, 49, 50, 51] := by decide

end Cardutil.Props.C14
