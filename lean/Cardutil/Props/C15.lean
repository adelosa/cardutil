import Cardutil.Model.Card
/-
  C15 — Luhn check digits are correct and validation really rejects bad numbers.

  Digit strings are lists of naturals below 10, of ANY length.  `luhnValid n` is the textbook
  definition: from the right, weights 1,2,1,2,…, digits of products added, total ≡ 0 (mod 10).
-/
namespace Cardutil.Props.C15

open Cardutil Cardutil.Card

def Digits (ds : List Nat) : Prop := ∀ d ∈ ds, d < 10

/-- the textbook validity of a full number (check digit included) -/
def luhnValid (n : List Nat) : Prop := wsum false n.reverse % 10 = 0

/-- the doubling flag of `wsum` after `n` further digits: it alternates -/
def wAfter : Nat → Bool → Bool
  | 0, f => f
  | n + 1, f => wAfter n (!f)

theorem wsum_append (f : Bool) (a b : List Nat) : wsum f (a ++ b) = wsum f a + wsum (wAfter a.length f) b := by
  induction a generalizing f with
  | nil => simp [wsum, wAfter]
  | cons x xs ih => simp [wsum, ih, wAfter, Nat.add_assoc]

/-- single-digit errors and transpositions are the windows `u` / `v` of length one and two -/
theorem window_of_valid {a u v b : List Nat} (hl : u.length = v.length)
    (hu : luhnValid (a ++ (u ++ b))) (hv : luhnValid (a ++ (v ++ b))) :
    wsum (wAfter b.length false) u.reverse % 10 = wsum (wAfter b.length false) v.reverse % 10 := by
  unfold luhnValid at hu hv
  simp only [List.reverse_append, wsum_append, List.length_reverse, List.length_append, hl] at hu hv
  exact add_mod_cancel (hu.trans hv.symm)

/-- C15(a): the computed digit is the Luhn digit: the unique `c < 10` with `(S + c) % 10 = 0`
    where `S` is the weighted digit sum of the payload (weights 2,1,2,… from the right). -/
theorem C15_calc_spec (ds : List Nat) :
    checkDigit ds < 10 ∧ (wsum true ds.reverse + checkDigit ds) % 10 = 0 ∧
    ∀ c, c < 10 → (wsum true ds.reverse + c) % 10 = 0 → c = checkDigit ds := by
  unfold checkDigit
  generalize wsum true ds.reverse = s
  -- `s + 9 s` is `10 s`, and two digits that complete `s` to a multiple of 10 are congruent, hence equal
  have h0 : (s + s * 9 % 10) % 10 = 0 := by rw [Nat.add_mod_mod, Nat.add_comm, ← Nat.mul_succ, Nat.mul_mod_left]
  refine ⟨Nat.mod_lt _ (by decide), h0, fun c hc h => ?_⟩
  have := add_mod_cancel (y := 0) (h.trans h0.symm)
  rwa [Nat.mod_eq_of_lt hc, Nat.mod_mod] at this

theorem valid_snoc (ds : List Nat) (c : Nat) (hc : c < 10) :
    luhnValid (ds ++ [c]) ↔ (wsum true ds.reverse + c) % 10 = 0 := by
  unfold luhnValid
  rw [List.reverse_append, List.reverse_singleton, List.singleton_append, wsum, if_neg Bool.false_ne_true, dsum,
    Nat.one_mul, Nat.div_eq_of_lt hc, Nat.mod_eq_of_lt hc, Nat.zero_add, Nat.add_comm]
  rfl

/-- C15(b): appending the computed digit always gives a valid number -/
theorem C15_append_valid (ds : List Nat) : luhnValid (ds ++ [checkDigit ds]) :=
  (valid_snoc ds _ (C15_calc_spec ds).1).mpr (C15_calc_spec ds).2.1

/-- the validation the code performs (recompute the digit of all but the last, compare with the
    last) is exactly textbook validity -/
theorem C15_validate_iff (ds : List Nat) (c : Nat) (hc : c < 10) : checkDigit ds = c ↔ luhnValid (ds ++ [c]) := by
  rw [valid_snoc ds c hc]
  exact ⟨fun h => h ▸ (C15_calc_spec ds).2.1, fun h => ((C15_calc_spec ds).2.2 c hc h).symm⟩

/-- the reason single-digit errors are caught -/
theorem w_inj : ∀ (f : Bool) x, x < 10 → ∀ y, y < 10 → wsum f [x] % 10 = wsum f [y] % 10 → x = y := by decide +kernel

/-- adjacent digits: the two weights tell `xy` from `yx` unless the digits are equal or are 0 and 9 -/
theorem swap_detect : ∀ (f : Bool) x, x < 10 → ∀ y, y < 10 → wsum f [y, x] % 10 = wsum f [x, y] % 10 →
    x = y ∨ ((x = 0 ∧ y = 9) ∨ (x = 9 ∧ y = 0)) := by decide +kernel

/-- C15(c): changing exactly one digit of a valid number makes it invalid -/
theorem C15_single_digit (a b : List Nat) (x y : Nat) (hx : x < 10) (hy : y < 10) (hne : x ≠ y)
    (hv : luhnValid (a ++ x :: b)) : ¬ luhnValid (a ++ y :: b) :=
  fun hv' => hne (w_inj _ x hx y hy (window_of_valid (u := [x]) (v := [y]) rfl hv hv'))

/-- C15(d): swapping two adjacent different digits, other than 0/9, makes a valid number invalid -/
theorem C15_transposition (a b : List Nat) (x y : Nat) (hx : x < 10) (hy : y < 10) (hne : x ≠ y)
    (h09 : ¬ ((x = 0 ∧ y = 9) ∨ (x = 9 ∧ y = 0)))
    (hv : luhnValid (a ++ x :: y :: b)) : ¬ luhnValid (a ++ y :: x :: b) :=
  fun hv' => (swap_detect _ x hx y hy (window_of_valid (u := [x, y]) (v := [y, x]) rfl hv hv')).elim hne h09

/-- text level: the check-digit function returns one ASCII digit character -/
theorem C15_calcText_digit (t : Text) : ∃ d, d < 10 ∧ calcText t = [48 + d] :=
  ⟨checkDigit (digitsOf t), (C15_calc_spec _).1, rfl⟩

/-- text level: `validate(add_check_digit(t))` accepts, for every text -/
theorem C15_add_then_validate (t : Text) : validateText (addCheckDigit t) = .ok () := by
  simp [validateText, addCheckDigit, calcText]

theorem digitsOf_map (ds : List Nat) (hds : Digits ds) : digitsOf (ds.map (· + 48)) = ds := by
  unfold digitsOf
  rw [List.filter_eq_self.mpr, List.map_map]
  · exact List.map_id'' (fun d => Nat.add_sub_cancel d 48) ds
  · intro c hc
    obtain ⟨d, hd, rfl⟩ := List.mem_map.mp hc
    have := hds d hd
    exact decide_eq_true ⟨by omega, by omega⟩

theorem validateText_snoc (t : Text) (l : Nat) :
    validateText (t ++ [l]) = if calcText t = [l] then .ok () else .escape .assertionError := by
  rw [validateText, List.getLast?_concat, List.dropLast_concat]

/-- text level: validation of a non-empty digit string accepts iff the number is Luhn-valid, and
    rejects with AssertionError otherwise (no third outcome) -/
theorem C15_validateText (ds : List Nat) (c : Nat) (hc : c < 10) (hds : Digits ds) :
    (validateText ((ds ++ [c]).map (· + 48)) = .ok () ↔ luhnValid (ds ++ [c])) ∧
    (validateText ((ds ++ [c]).map (· + 48)) = .ok () ∨
     validateText ((ds ++ [c]).map (· + 48)) = .escape .assertionError) := by
  rw [List.map_append, List.map_singleton, validateText_snoc, calcText, digitsOf_map ds hds, ← C15_validate_iff ds c hc]
  by_cases h : checkDigit ds = c
  · rw [if_pos (by rw [h, Nat.add_comm])]
    exact ⟨⟨fun _ => h, fun _ => rfl⟩, Or.inl rfl⟩
  · -- `48 + checkDigit ds = c + 48` would give `checkDigit ds = c`
    rw [if_neg fun e => h (Nat.add_left_cancel ((List.head_eq_of_cons_eq e).trans (Nat.add_comm c 48)))]
    exact ⟨⟨fun e => (by cases e), fun e => absurd e h⟩, Or.inr rfl⟩

/-- non-vacuity: the documentation's example 7992739871 → 3, and 79927398713 is valid -/
example : checkDigit [7, 9, 9, 2, 7, 3, 9, 8, 7, 1] = 3 := by decide
example : luhnValid [7, 9, 9, 2, 7, 3, 9, 8, 7, 1, 3] := by unfold luhnValid; decide
example : Digits [7, 9, 9, 2, 7, 3, 9, 8, 7, 1] := by intro d hd; simp at hd; omega

end Cardutil.Props.C15
