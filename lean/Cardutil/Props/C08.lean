import Cardutil.Props.C01
/-
  C08 — decoding accepts exactly the well-framed messages and never mis-frames one.

  `frames env cfg bits data` is an independent, pointer-free reading of the element layout: for
  each flagged element in ascending order its length prefix, its declared (non-negative) length and
  its content bytes.  Soundness: whenever `decode` returns, the elements flagged in the bitmap TILE
  the message data exactly under that reading and every returned value is the decoding of the
  element's own content bytes.  Completeness: every message that tiles and whose contents decode
  and convert is accepted.  All byte strings, codecs, configurations; no bound.
-/
namespace Cardutil.Props.C08

open Cardutil Cardutil.Iso Cardutil.Py

/-- one element as it sits in the message data -/
structure Seg where
  bit : Nat
  f : FieldCfg
  pre : Bytes        -- the length prefix bytes (empty for fixed elements)
  declared : Nat     -- configured width or the parsed, non-negative, length prefix
  content : Bytes

/-- decoding of an element's content bytes (the part of `_iso8583_to_field` after the length) -/
def decodeContent (env : Env) (bit : Nat) (f : FieldCfg) (raw : Bytes) : Outcome Dict :=
  if f.proc == .icc then decodeIcc bit f raw else decodeTextField env bit f raw

theorem decodeField_eq (env : Env) (bit : Nat) (f : FieldCfg) (data : Bytes) :
    decodeField env bit f data =
      (fieldLength env f data).bind (fun n =>
        (decodeContent env bit f ((data.drop f.prefixLen).take n)).bind (fun d => .ok (d, n + f.prefixLen))) := rfl

/-- the independent reading of the layout: prefix, declared length, content, element by element -/
def frames (env : Env) (cfg : Config) : List Nat → Bytes → Option (List Seg)
  | [], _ => some []
  | bit :: bits, data =>
    match cfg.get bit with
    | none => none
    | some f =>
      match fieldLength env f data with
      | .ok n =>
        (frames env cfg bits (data.drop (f.prefixLen + n))).map
          (⟨bit, f, data.take f.prefixLen, n, (data.drop f.prefixLen).take n⟩ :: ·)
      | _ => none

def totalLen (segs : List Seg) : Nat := (segs.map (fun s => s.f.prefixLen + s.declared)).sum

/-- the dictionary the elements yield, in order -/
def dictOf (env : Env) (acc : Dict) : List Seg → Outcome Dict
  | [] => .ok acc
  | s :: rest => (decodeContent env s.bit s.f s.content).bind (fun d => dictOf env (Dict.update acc d) rest)

theorem totalLen_cons (s : Seg) (r : List Seg) : totalLen (s :: r) = s.f.prefixLen + s.declared + totalLen r := by
  simp [totalLen]

/-- the pointer after one more element, as `decodeBits` advances it -/
theorem add_totalLen_cons (ptr : Nat) (s : Seg) (r : List Seg) :
    ptr + totalLen (s :: r) = ptr + (s.declared + s.f.prefixLen) + totalLen r := by
  rw [totalLen_cons, Nat.add_comm s.declared, Nat.add_assoc ptr]

theorem frames_cons_eq_some {env : Env} {cfg : Config} {bit : Nat} {bits : List Nat} {data : Bytes} {segs : List Seg} :
    frames env cfg (bit :: bits) data = some segs ↔
      ∃ f n rest, cfg.get bit = some f ∧ fieldLength env f data = .ok n ∧
        frames env cfg bits (data.drop (f.prefixLen + n)) = some rest ∧
        segs = ⟨bit, f, data.take f.prefixLen, n, (data.drop f.prefixLen).take n⟩ :: rest := by
  rw [frames]
  constructor
  · intro h
    split at h
    · cases h
    · rename_i f hcfg
      split at h
      · rename_i n hn
        obtain ⟨rest, hr, rfl⟩ := Option.map_eq_some_iff.mp h
        exact ⟨f, n, rest, hcfg, hn, hr, rfl⟩
      · cases h
  · rintro ⟨f, n, rest, hcfg, hn, hr, rfl⟩
    simp only [hcfg, hn, hr, Option.map_some]

theorem decodeBits_eq_ok (env : Env) (cfg : Config) (bits : List Nat) (data : Bytes) (acc : Dict) (ptr : Nat)
    (d : Dict) (q : Nat) :
    decodeBits env cfg bits data acc ptr = .ok (d, q) ↔
      ∃ segs, frames env cfg bits (data.drop ptr) = some segs ∧ q = ptr + totalLen segs ∧
        dictOf env acc segs = .ok d := by
  fun_induction decodeBits env cfg bits data acc ptr with
  | case1 data acc ptr =>
    -- no element left: the reading is `[]` and the pointer stays
    constructor
    · rintro ⟨⟩
      exact ⟨[], rfl, rfl, rfl⟩
    · rintro ⟨_, ⟨⟩, rfl, ⟨⟩⟩
      rfl
  | case2 bit bits data acc ptr hcfg => simp [frames, hcfg]
  | case3 bit bits data acc ptr f hcfg ih =>
    have hdrop : ∀ n, (data.drop ptr).drop (f.prefixLen + n) = data.drop (ptr + (n + f.prefixLen)) := fun n => by
      rw [List.drop_drop, Nat.add_comm n]
    simp only [Outcome.bind_eq_ok, decodeField_eq, ih, Outcome.ok.injEq]
    constructor
    · rintro ⟨_, ⟨n, hn, dc, hdc, rfl⟩, segs, hfr, rfl, hd⟩
      refine ⟨_, frames_cons_eq_some.mpr ⟨f, n, segs, hcfg, hn, (hdrop n).symm ▸ hfr, rfl⟩, ?_, ?_⟩
      · exact (add_totalLen_cons ptr ⟨bit, f, _, n, _⟩ segs).symm
      · simp only [dictOf, hdc, Outcome.bind, hd]
    · rintro ⟨_, hfr, rfl, hd⟩
      obtain ⟨f', n, rest, hcfg', hn, hrest, rfl⟩ := frames_cons_eq_some.mp hfr
      cases hcfg.symm.trans hcfg'
      obtain ⟨dc, hdc, hd'⟩ := Outcome.bind_eq_ok.mp hd
      exact ⟨_, ⟨n, hn, dc, hdc, rfl⟩, rest, hdrop n ▸ hrest, add_totalLen_cons .., hd'⟩

/-- exact tiling: nothing left over, overlapping or skipped -/
theorem frames_tile (env : Env) (cfg : Config) (bits : List Nat) (data : Bytes) (segs : List Seg)
    (h : frames env cfg bits data = some segs) (hlen : totalLen segs = data.length) :
    data = (segs.map (fun s => s.pre ++ s.content)).flatten ∧
    (∀ s ∈ segs, s.pre.length = s.f.prefixLen ∧ s.content.length = s.declared) ∧
    segs.map (·.bit) = bits := by
  induction bits generalizing data segs with
  | nil =>
    cases h
    have : data = [] := List.eq_nil_of_length_eq_zero hlen.symm
    subst this
    exact ⟨rfl, by simp, rfl⟩
  | cons bit bits ih =>
    obtain ⟨f, n, rest, -, -, hr, rfl⟩ := frames_cons_eq_some.mp h
    simp only [totalLen_cons] at hlen
    have hle : f.prefixLen + n ≤ data.length := hlen ▸ Nat.le_add_right ..
    obtain ⟨hd, hs, hb⟩ := ih _ _ hr (by rw [List.length_drop, ← hlen, Nat.add_sub_cancel_left])
    refine ⟨?_, ?_, by simp [hb]⟩
    · simp only [List.map_cons, List.flatten_cons]
      rw [← hd, ← List.drop_drop, List.append_assoc, List.take_append_drop, List.take_append_drop]
    · intro s hs'
      rcases List.mem_cons.mp hs' with rfl | hs''
      · exact ⟨List.length_take_of_le (Nat.le_trans (Nat.le_add_right ..) hle),
          List.length_take_of_le (List.length_drop ▸ Nat.le_sub_of_add_le' hle)⟩
      · exact hs s hs''

/-- the declared length of every element is what its prefix says (parsed with `int()`, never
    negative) or the configured width -/
theorem frames_declared (env : Env) (cfg : Config) (bits : List Nat) (data : Bytes) (segs : List Seg)
    (h : frames env cfg bits data = some segs) :
    ∀ s ∈ segs, cfg.get s.bit = some s.f ∧
      (s.f.prefixLen = 0 → s.declared = s.f.length) ∧
      (0 < s.f.prefixLen → ∃ t, env.codec.decode s.pre = some t ∧ pyInt env.classes t = some (Int.ofNat s.declared)) := by
  induction bits generalizing data segs with
  | nil =>
    cases h
    exact fun _ hs => nomatch hs
  | cons bit bits ih =>
    obtain ⟨f, n, rest, hcfg, hl, hr, rfl⟩ := frames_cons_eq_some.mp h
    intro s hs
    rcases List.mem_cons.mp hs with rfl | hs'
    · exact ⟨hcfg, fieldLength_eq_ok hl⟩
    · exact ih _ _ hr s hs'

theorem decode_eq_ok (env : Env) (cfg : Config) (hexBitmap : Bool) (msg : Bytes) (d : Dict) :
    decode env cfg hexBitmap msg = .ok d ↔
      ∃ mti bitmap data segs, decodeHeader env hexBitmap msg = .ok (mti, bitmap, data) ∧
        frames env cfg (presentBits bitmap) data = some segs ∧ totalLen segs = data.length ∧
        dictOf env [(.mti, .str mti)] segs = .ok d := by
  rw [decode, Outcome.bind_eq_ok]
  constructor
  · rintro ⟨⟨mti, bitmap, data⟩, hh, hb⟩
    obtain ⟨⟨d', q⟩, hbits, hq⟩ := Outcome.bind_eq_ok.mp hb
    obtain ⟨segs, hfr, rfl, hd⟩ := (decodeBits_eq_ok ..).mp hbits
    split at hq
    next htile => cases hq; exact ⟨mti, bitmap, data, segs, hh, hfr, (Nat.zero_add _).symm.trans htile, hd⟩
    next => cases hq
  · rintro ⟨mti, bitmap, data, segs, hh, hfr, htile, hd⟩
    exact ⟨_, hh, Outcome.bind_eq_ok.mpr
      ⟨(d, _), (decodeBits_eq_ok ..).mpr ⟨segs, hfr, rfl, hd⟩, if_pos ((Nat.zero_add _).trans htile)⟩⟩

/-- C08 (soundness): whenever decoding returns, the header is well formed and the elements flagged
    in the bitmap tile the message data exactly; the returned dictionary is MTI plus, element by
    element, the decoding of that element's own content bytes -/
theorem C08_sound (env : Env) (cfg : Config) (hexBitmap : Bool) (msg : Bytes) (d : Dict)
    (h : decode env cfg hexBitmap msg = .ok d) :
    ∃ mti bitmap data segs,
      decodeHeader env hexBitmap msg = .ok (mti, bitmap, data) ∧
      frames env cfg (presentBits bitmap) data = some segs ∧
      data = (segs.map (fun s => s.pre ++ s.content)).flatten ∧
      (∀ s ∈ segs, s.pre.length = s.f.prefixLen ∧ s.content.length = s.declared) ∧
      segs.map (·.bit) = presentBits bitmap ∧
      dictOf env [(.mti, .str mti)] segs = .ok d := by
  obtain ⟨mti, bitmap, data, segs, hh, hfr, hlen, hd⟩ := (decode_eq_ok ..).mp h
  obtain ⟨ht, hs, hbits⟩ := frames_tile env cfg _ _ _ hfr hlen
  exact ⟨mti, bitmap, data, segs, hh, hfr, ht, hs, hbits, hd⟩

/-- C08 (completeness): a message with a well-formed header whose flagged elements tile the data
    exactly and whose contents decode and convert is ACCEPTED, with exactly that dictionary — a
    decoder made too strict (e.g. rejecting zero-length variable elements) would violate this -/
theorem C08_complete (env : Env) (cfg : Config) (hexBitmap : Bool) (msg : Bytes)
    (mti : Text) (bitmap data : Bytes) (segs : List Seg) (d : Dict)
    (hh : decodeHeader env hexBitmap msg = .ok (mti, bitmap, data))
    (hfr : frames env cfg (presentBits bitmap) data = some segs)
    (htile : totalLen segs = data.length)
    (hd : dictOf env [(.mti, .str mti)] segs = .ok d) :
    decode env cfg hexBitmap msg = .ok d :=
  (decode_eq_ok ..).mpr ⟨mti, bitmap, data, segs, hh, hfr, htile, hd⟩

/-- zero-length variable elements are well framed: a prefix of zeros declares length 0 -/
example : fieldLength (C01.envOf Gen.latin_1 (fun _ => none)) ⟨.llvar, 0, .none, .str, []⟩ [48, 48, 65] = .ok 0 := by
  decide +kernel

/-- and a negative prefix is not a length at all -/
example : fieldLength (C01.envOf Gen.latin_1 (fun _ => none)) ⟨.llvar, 0, .none, .str, []⟩ [45, 50, 65] = .dataError := by
  decide +kernel

end Cardutil.Props.C08
