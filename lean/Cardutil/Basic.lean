/-
  Basic vocabulary of the cardutil models.

  Bytes and text are lists of naturals (a byte is a value 0..255, a character is a code point).
  The harness only ever sends values below 256 / valid code points; theorems are proved for all
  lists of naturals, which includes them.  No Mathlib below this line: everything under
  `Cardutil/Model` and `Cardutil/Py` is core Lean so that the driver links as a `lean_exe`.
-/

abbrev Bytes := List Nat
abbrev Text := List Nat

namespace Cardutil

/-- Python exception kinds that are *not* the library's own error. -/
inductive ExcKind
  | valueError | structError | binasciiError | indexError | unicodeError | typeError
  | keyError | overflowError | assertionError | decimalError | other
  deriving Repr, DecidableEq, Inhabited

def ExcKind.name : ExcKind → String
  | .valueError => "ValueError"
  | .structError => "struct.error"
  | .binasciiError => "binascii.Error"
  | .indexError => "IndexError"
  | .unicodeError => "UnicodeError"
  | .typeError => "TypeError"
  | .keyError => "KeyError"
  | .overflowError => "OverflowError"
  | .assertionError => "AssertionError"
  | .decimalError => "InvalidOperation"
  | .other => "Exception"

/-- The result of running a modelled Python function.
    `dataError` is the library's own error family (`CardutilError` subclasses);
    `escape` is any other exception; `diverge` means the modelled loop ran out of fuel,
    i.e. the Python loop would not terminate. -/
inductive Outcome (α : Type)
  | ok (a : α)
  | dataError
  | escape (k : ExcKind)
  | diverge
  deriving Repr, DecidableEq

namespace Outcome

@[inline] def bind {α β} (x : Outcome α) (f : α → Outcome β) : Outcome β :=
  match x with
  | ok a => f a
  | dataError => dataError
  | escape k => escape k
  | diverge => diverge

instance : Monad Outcome where
  pure := ok
  bind := bind

/-- The property C07 speaks of: a value or the library's own error. -/
def isOkOrDataError {α} : Outcome α → Bool
  | ok _ => true
  | dataError => true
  | _ => false

def isOk {α} : Outcome α → Bool
  | ok _ => true
  | _ => false

@[simp] theorem bind_ok {α β} (a : α) (f : α → Outcome β) : (ok a >>= f) = f a := rfl
@[simp] theorem bind_dataError {α β} (f : α → Outcome β) : ((dataError : Outcome α) >>= f) = dataError := rfl
@[simp] theorem bind_escape {α β} (k) (f : α → Outcome β) : ((escape k : Outcome α) >>= f) = escape k := rfl
@[simp] theorem bind_diverge {α β} (f : α → Outcome β) : ((diverge : Outcome α) >>= f) = diverge := rfl
@[simp] theorem pure_eq {α} (a : α) : (pure a : Outcome α) = ok a := rfl

/-! The model and the translated source write `x.bind f`; only `Model/PinBlock.lean` and `Model/Cli.lean` use `do`
(the `>>=` forms above).  `x >>= f` unfolds to `x.bind f`, so `bind_eq_ok` takes a `do` body apart as well. -/

theorem _root_.Cardutil.bind_ok_eq {α β} (a : α) (f : α → Outcome β) : (ok a).bind f = f a := rfl
theorem _root_.Cardutil.bind_ok_right {α} (x : Outcome α) : x.bind (fun t => ok t) = x := by cases x <;> rfl

theorem bind_eq_ok {α β} {x : Outcome α} {f : α → Outcome β} {b : β} :
    x.bind f = ok b ↔ ∃ a, x = ok a ∧ f a = ok b := by
  cases x <;> simp [bind]

theorem bind_assoc {α β γ} (x : Outcome α) (f : α → Outcome β) (g : β → Outcome γ) :
    (x.bind f).bind g = x.bind (fun a => (f a).bind g) := by
  cases x <;> rfl

theorem ite_bind {α β} (c : Prop) [Decidable c] (a b : Outcome α) (f : α → Outcome β) :
    (if c then a else b).bind f = if c then a.bind f else b.bind f := apply_ite (bind · f) c a b

theorem bind_congr {α β} {x : Outcome α} {f g : α → Outcome β} (h : ∀ a, x = ok a → f a = g a) :
    x.bind f = x.bind g := by
  cases x with
  | ok a => exact h a rfl
  | _ => rfl

theorem bind_self {α β} (x : Outcome α) (f : α → α → Outcome β) :
    x.bind (fun a => x.bind (f a)) = x.bind (fun a => f a a) := by
  cases x <;> rfl

/-- `try: x except <kinds>: raise library error` -/
def catchAs {α} (x : Outcome α) (p : ExcKind → Bool) : Outcome α :=
  match x with
  | escape k => if p k then dataError else escape k
  | o => o

/-- `[f x for x in xs]` where `f` may raise: the first failure wins -/
def mapO {α β} (f : α → Outcome β) : List α → Outcome (List β)
  | [] => ok []
  | x :: xs => bind (f x) (fun y => bind (mapO f xs) (fun ys => ok (y :: ys)))

theorem mapO_map_ok {α β γ} (f : γ → Outcome β) (k : α → γ) (g : α → β) (l : List α)
    (h : ∀ x ∈ l, f (k x) = ok (g x)) : mapO f (l.map k) = ok (l.map g) := by
  induction l with
  | nil => rfl
  | cons m ms ih =>
    simp only [List.map_cons, mapO, h m (by simp), ih (fun x hx => h x (by simp [hx])), bind]

theorem catchAs_eq_ok {α} {o : Outcome α} {p : ExcKind → Bool} {a : α} : o.catchAs p = ok a ↔ o = ok a := by
  fun_cases catchAs o p <;> simp

theorem mapO_cons_eq_ok {α β} {f : α → Outcome β} {x : α} {xs : List α} {ys : List β} :
    mapO f (x :: xs) = ok ys ↔ ∃ y ys', f x = ok y ∧ mapO f xs = ok ys' ∧ ys = y :: ys' := by
  simp only [mapO, bind_eq_ok, ok.injEq]
  constructor
  · rintro ⟨y, hy, ys', hys, rfl⟩; exact ⟨y, ys', hy, hys, rfl⟩
  · rintro ⟨y, ys', hy, hys, rfl⟩; exact ⟨y, hy, ys', hys, rfl⟩

theorem mapO_eq_ok {α β} {f : α → Outcome β} {xs : List α} {ys : List β} (h : mapO f xs = ok ys) :
    ys.length = xs.length ∧ ∀ i (h1 : i < xs.length) (h2 : i < ys.length), f xs[i] = ok ys[i] := by
  induction xs generalizing ys with
  | nil => cases h; exact ⟨rfl, fun i h1 => absurd h1 (Nat.not_lt_zero i)⟩
  | cons x xs ih =>
    obtain ⟨y, ys', hy, hys, rfl⟩ := mapO_cons_eq_ok.mp h
    obtain ⟨hl, hi⟩ := ih hys
    refine ⟨by simp [hl], fun i h1 h2 => ?_⟩
    cases i with
    | zero => exact hy
    | succ j => exact hi j (by simpa using h1) (by simpa using h2)

theorem mapO_congr {α β} {f g : α → Outcome β} {xs : List α} (h : ∀ x ∈ xs, f x = g x) : mapO f xs = mapO g xs := by
  induction xs with
  | nil => rfl
  | cons x xs ih => simp only [mapO, h x (by simp), ih (fun y hy => h y (by simp [hy]))]

/-- a value or the library error (the two outcomes C07 allows) -/
def Safe {α} (o : Outcome α) : Prop := o.isOkOrDataError = true

theorem safe_ok {α} (a : α) : Safe (ok a) := rfl
theorem safe_dataError {α} : Safe (dataError : Outcome α) := rfl

theorem safe_cases {α} {o : Outcome α} (h : Safe o) : (∃ a, o = ok a) ∨ o = dataError := by
  cases o with
  | ok a => exact Or.inl ⟨a, rfl⟩
  | dataError => exact Or.inr rfl
  | escape k | diverge => cases h

theorem ne_diverge_of_safe {α} {o : Outcome α} {p : ExcKind → Bool} (h : Safe (o.catchAs p)) : o ≠ diverge := by
  rintro rfl
  cases h

theorem safe_bind {α β} {o : Outcome α} {g : α → Outcome β} (ho : Safe o) (hg : ∀ a, o = ok a → Safe (g a)) :
    Safe (o.bind g) := by
  rcases safe_cases ho with ⟨a, rfl⟩ | rfl
  · exact hg a rfl
  · rfl

/-- what returns or raises one kind of exception is safe under a handler for that kind -/
theorem safe_catchAs {α} {o : Outcome α} {p : ExcKind → Bool} {k : ExcKind} (hk : p k = true)
    (h : (∃ a, o = ok a) ∨ o = escape k) : Safe (o.catchAs p) := by
  rcases h with ⟨a, rfl⟩ | rfl
  · rfl
  · rw [catchAs, if_pos hk]; rfl

/-! `bind_eq_ok` under an existential: with these `simp only` takes `∃ st, (x.bind f) = ok st ∧ P st` apart bind by bind. -/

theorem _root_.Cardutil.exists_bind_eq_ok {α β} {x : Outcome α} {f : α → Outcome β} {P : β → Prop} :
    (∃ b, x.bind f = ok b ∧ P b) ↔ ∃ a, x = ok a ∧ ∃ b, f a = ok b ∧ P b := by
  simp only [bind_eq_ok]
  exact ⟨fun ⟨b, ⟨a, h1, h2⟩, h3⟩ => ⟨a, h1, b, h2, h3⟩, fun ⟨a, h1, b, h2, h3⟩ => ⟨b, ⟨a, h1, h2⟩, h3⟩⟩

theorem _root_.Cardutil.exists_ok_eq {α} {a : α} {P : α → Prop} : (∃ b, ok a = ok b ∧ P b) ↔ P a := by simp

end Outcome

/-! ### `List.mapM` into `Option` (codecs, digit parsers): the counterpart of `mapO` -/

theorem mapM_cons_eq_some {α β} {f : α → Option β} {a : α} {l : List α} {l' : List β} :
    (a :: l).mapM f = some l' ↔ ∃ b bs, f a = some b ∧ l.mapM f = some bs ∧ l' = b :: bs := by
  rw [List.mapM_cons]
  cases f a with
  | none => exact ⟨nofun, by rintro ⟨_, _, ⟨⟩, _⟩⟩
  | some b =>
    cases l.mapM f with
    | none => exact ⟨nofun, by rintro ⟨_, _, _, ⟨⟩, _⟩⟩
    | some bs => exact ⟨fun h => ⟨b, bs, rfl, rfl, (Option.some.inj h).symm⟩, by rintro ⟨_, _, ⟨⟩, ⟨⟩, rfl⟩; rfl⟩

theorem mapM_inverse {α β} {f : α → Option β} {g : β → Option α} (h : ∀ a b, f a = some b → g b = some a)
    {l : List α} {l' : List β} (hl : l.mapM f = some l') : l'.mapM g = some l := by
  induction l generalizing l' with
  | nil => cases hl; rfl
  | cons a l ih =>
    obtain ⟨b, bs, hb, hbs, rfl⟩ := mapM_cons_eq_some.mp hl
    exact mapM_cons_eq_some.mpr ⟨a, l, h a b hb, ih hbs, rfl⟩

theorem mapM_length {α β} {f : α → Option β} {l : List α} {l' : List β} (hl : l.mapM f = some l') :
    l'.length = l.length := by
  induction l generalizing l' with
  | nil => cases hl; rfl
  | cons a l ih =>
    obtain ⟨b, bs, -, hbs, rfl⟩ := mapM_cons_eq_some.mp hl
    rw [List.length_cons, List.length_cons, ih hbs]

theorem mapM_total {α β} {f : α → Option β} {l : List α} (h : ∀ x ∈ l, ∃ y, f x = some y) :
    ∃ l', l.mapM f = some l' ∧ l'.length = l.length := by
  induction l with
  | nil => exact ⟨[], rfl, rfl⟩
  | cons x xs ih =>
    obtain ⟨y, hy⟩ := h x List.mem_cons_self
    obtain ⟨ys, hys, hl⟩ := ih fun z hz => h z (List.mem_cons_of_mem _ hz)
    exact ⟨y :: ys, mapM_cons_eq_some.mpr ⟨y, ys, hy, hys, rfl⟩, by rw [List.length_cons, List.length_cons, hl]⟩

theorem mapM_append_some {α β} {f : α → Option β} {l r : List α} {l' r' : List β} (hl : l.mapM f = some l')
    (hr : r.mapM f = some r') : (l ++ r).mapM f = some (l' ++ r') := by
  rw [List.mapM_append, hl, hr]; rfl

theorem mapM_forall {α β} {f : α → Option β} {Q : β → Prop} (h : ∀ a b, f a = some b → Q b) {l : List α} {l' : List β}
    (hl : l.mapM f = some l') : ∀ b ∈ l', Q b := by
  induction l generalizing l' with
  | nil => cases hl; exact fun _ hb => nomatch hb
  | cons a l ih =>
    obtain ⟨b, bs, hb, hbs, rfl⟩ := mapM_cons_eq_some.mp hl
    exact List.forall_mem_cons.mpr ⟨h a b hb, ih hbs⟩

/-! ### lists -/

/-- induction from the right (core Lean has no `reverseRecOn`) -/
theorem rev_induction {α : Type} {P : List α → Prop} (nil : P [])
    (append_singleton : ∀ l x, P l → P (l ++ [x])) : ∀ l, P l := by
  intro l
  have : ∀ r : List α, P r.reverse := by
    intro r
    induction r with
    | nil => exact nil
    | cons x xs ih => rw [List.reverse_cons]; exact append_singleton _ _ ih
  have h := this l.reverse
  rwa [List.reverse_reverse] at h

theorem length_flatMap_const {α β} {g : α → List β} {n : Nat} {l : List α} (h : ∀ x ∈ l, (g x).length = n) :
    (l.flatMap g).length = n * l.length := by
  rw [List.length_flatMap, List.map_eq_replicate_iff.mpr h, List.sum_replicate_nat, Nat.mul_comm]

theorem mem_of_find_fst {α β} [BEq α] [LawfulBEq α] {l : List (α × β)} {k : α} {v : β}
    (h : (l.find? (·.1 == k)).map (·.2) = some v) : (k, v) ∈ l := by
  obtain ⟨e, hf, rfl⟩ := Option.map_eq_some_iff.mp h
  have hk : e.1 = k := by simpa using List.find?_some hf
  exact hk ▸ List.mem_of_find?_eq_some hf

theorem inj_of_nodup_map {α β} {f : α → β} {l : List α} (h : (l.map f).Nodup) {a b : α} (ha : a ∈ l) (hb : b ∈ l)
    (e : f a = f b) : a = b :=
  have hp := List.pairwise_map.mp h
  List.Pairwise.forall_of_forall_of_flip (R := fun x y => f x = f y → x = y) (fun _ _ _ => rfl)
    (hp.imp fun h e => absurd e h) (hp.imp fun h e => absurd e.symm h) ha hb e

/-- `[x for x in l' if p(x)]` over `l' = [e(x) for x in l]`, when the condition is `q` on `l` -/
theorem filter_map_congr {α β} {p : β → Bool} {q : α → Bool} {e : α → β} {l : List α} (h : ∀ x ∈ l, p (e x) = q x) :
    (l.map e).filter p = (l.filter q).map e := by
  rw [List.filter_map]
  exact congrArg _ (List.filter_congr h)

/-- a slice that lies within the first `S` elements is the same slice of the whole list -/
theorem take_drop_take {α} {S o n : Nat} (h : o + n ≤ S) (l : List α) : ((l.take S).drop o).take n = (l.drop o).take n := by
  rw [List.drop_take, List.take_take, Nat.min_eq_left (by omega)]

/-- a list of known length `n` is the literal of its `n` entries (after `rw` with the length, by evaluation of `List.range n`) -/
theorem eq_map_range {α} (d : α) (s : List α) : s = (List.range s.length).map (s.getD · d) := by
  apply List.ext_getElem (by simp)
  intro i h1 _
  simp [List.getD_eq_getElem?_getD, List.getElem?_eq_getElem h1]

theorem le_length_take {α} {k S : Nat} {l : List α} (hS : k ≤ S) (hl : k ≤ l.length) : k ≤ (l.take S).length :=
  List.length_take ▸ Nat.le_min.mpr ⟨hS, hl⟩

/-- equal parts cancel from a congruence: over the integers the difference of the two sides is `u - v` -/
theorem add_mod_cancel {x y u v m : Nat} (h : (x + u + y) % m = (x + v + y) % m) : u % m = v % m := by
  apply Int.natCast_inj.mp
  have h' := congrArg (Nat.cast (R := Int)) h
  simp only [Int.natCast_emod, Int.natCast_add] at h' ⊢
  rwa [Int.emod_eq_emod_iff_emod_sub_eq_zero, Int.add_sub_add_right, Int.add_sub_add_left,
    ← Int.emod_eq_emod_iff_emod_sub_eq_zero] at h'

/-- The EBCDIC space / 1014 pad byte. -/
def padByte : Nat := 0x40

end Cardutil
