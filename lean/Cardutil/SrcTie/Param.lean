import Cardutil.SrcTie.Base
import Cardutil.Gen.Src
import Cardutil.Model.Param
import Cardutil.Props.C18
/-
  Source tie for `mciipm.IpmParamReader._get_param_field` (C18): the column slicing of the parameter reader,
  translated from the current source (the reader's `expanded` flag, its decoder, its table index and the table
  layouts are parameters; the class-level `slice(a, b)` constants are read from the class body).
-/
namespace Cardutil.SrcTie

open Cardutil Cardutil.Py

/-- `bytes.decode(encoding)` of a codec, as the translated code calls it -/
def decoderOfCodec (c : Codec) : Bytes → Outcome Text := fun b =>
  match c.decode b with
  | some t => .ok t
  | none => .escape .unicodeError

/-- the layout entry of a column: `param_config[table][field]` holds `start` and `end` (the two keys in code points:
    `kStart` and `kEnd` of SrcTie/ParamRow.lean) -/
def HasColumn (cfg : Rt.SDict (Rt.SDict (Rt.SDict Int))) (table field : Text) (s e : Nat) : Prop :=
  ∃ layout cols, Rt.dictGet cfg table = .ok layout ∧ Rt.dictGet layout field = .ok cols ∧
    Rt.dictGet cols [115, 116, 97, 114, 116] = .ok ((s : Nat) : Int) ∧ Rt.dictGet cols [101, 110, 100] = .ok ((e : Nat) : Int)

theorem decodeSlice_eq (c : Codec) (r : Bytes) (a b : Nat) :
    decoderOfCodec c (Py.slice r a b) = Param.decodeSlice c r a b := rfl

/-- EXPANDED rows: the translated method returns the decoded characters `start .. end` of the row -/
theorem get_param_field_expanded (c : Codec) (index : Rt.SDict Text) (cfg : Rt.SDict (Rt.SDict (Rt.SDict Int))) (tid : Text)
    (record : Bytes) (table field : Text) (s e : Nat)
    (hid : c.decode (Py.slice record 11 19) = some table) (hcol : HasColumn cfg table field s e) :
    Src.IpmParamReaderget_param_field true (decoderOfCodec c) index cfg tid record field = Param.decodeSlice c record s e := by
  obtain ⟨layout, cols, h1, h2, h3, h4⟩ := hcol
  unfold Src.IpmParamReaderget_param_field
  have e1 : Rt.slice record (some (11 : Int)) (some (19 : Int)) = Py.slice record 11 19 := slice_nn record 11 19
  simp only [if_true, e1, decodeSlice_eq, Param.decodeSlice_eq_ok.mpr hid, bind_ok_eq, h1, h2, h3, h4, Int.add_zero, slice_nn,
    bind_ok_right]

/-- COMPRESSED rows: the table comes from the index by the row's sub-id, and the column positions are those of the
    expanded layout moved 8 to the left -/
theorem get_param_field_compressed (c : Codec) (index : Rt.SDict Text) (cfg : Rt.SDict (Rt.SDict (Rt.SDict Int))) (tid : Text)
    (record : Bytes) (sub table field : Text) (s e : Nat)
    (hsub : c.decode (Py.slice record 8 11) = some sub) (hix : Rt.dictGetOpt index sub = some table)
    (hcol : HasColumn cfg table field s e) (h8 : 8 ≤ s) (hse : s ≤ e) :
    Src.IpmParamReaderget_param_field false (decoderOfCodec c) index cfg tid record field =
      Param.decodeSlice c record (s - 8) (e - 8) := by
  obtain ⟨layout, cols, h1, h2, h3, h4⟩ := hcol
  unfold Src.IpmParamReaderget_param_field
  have e1 : Rt.slice record (some (8 : Int)) (some (11 : Int)) = Py.slice record 8 11 := slice_nn record 8 11
  have hs : ((s : Nat) : Int) + (-(8 : Int)) = (((s - 8 : Nat)) : Int) := (Int.ofNat_sub h8).symm
  have he : ((e : Nat) : Int) + (-(8 : Int)) = (((e - 8 : Nat)) : Int) := (Int.ofNat_sub (Nat.le_trans h8 hse)).symm
  simp only [Bool.false_eq_true, if_false, e1, decodeSlice_eq, Param.decodeSlice_eq_ok.mpr hsub, bind_ok_eq, hix,
    Rt.dictGetO, h1, h2, h3, h4, hs, he, slice_nn, bind_ok_right]

/-- a compressed row whose sub-id the index does not know has no layout to slice by: KeyError (the reader only calls
    the method for rows it has already matched to the requested table) -/
theorem get_param_field_unknown_subid (c : Codec) (index : Rt.SDict Text) (cfg : Rt.SDict (Rt.SDict (Rt.SDict Int))) (tid : Text)
    (record : Bytes) (sub field : Text)
    (hsub : c.decode (Py.slice record 8 11) = some sub) (hix : Rt.dictGetOpt index sub = none) :
    Src.IpmParamReaderget_param_field false (decoderOfCodec c) index cfg tid record field = .escape .keyError := by
  unfold Src.IpmParamReaderget_param_field
  have e1 : Rt.slice record (some (8 : Int)) (some (11 : Int)) = Py.slice record 8 11 := slice_nn record 8 11
  simp only [Bool.false_eq_true, if_false, e1, decodeSlice_eq, Param.decodeSlice_eq_ok.mpr hsub, bind_ok_eq, hix, Rt.dictGetO]
  rfl

/-- C18 for the column slicing as translated: the compressed and the expanded representation of the same row body give
    the same column text (the translated method on both, through the model's `C18_compressed_eq_expanded`) -/
theorem C18_source_compressed_eq_expanded (c : Codec) (index : Rt.SDict Text) (cfg : Rt.SDict (Rt.SDict (Rt.SDict Int))) (tid : Text)
    (hdrC hdrX body : Bytes) (sub table field : Text) (s e : Nat)
    (hC : hdrC.length = 11) (hX : hdrX.length = 19)
    (hsub : c.decode (Py.slice (hdrC ++ body) 8 11) = some sub) (hix : Rt.dictGetOpt index sub = some table)
    (hid : c.decode (Py.slice (hdrX ++ body) 11 19) = some table)
    (hcol : HasColumn cfg table field s e) (h19 : 19 ≤ s) (hse : s ≤ e) :
    Src.IpmParamReaderget_param_field false (decoderOfCodec c) index cfg tid (hdrC ++ body) field =
      Src.IpmParamReaderget_param_field true (decoderOfCodec c) index cfg tid (hdrX ++ body) field := by
  rw [get_param_field_compressed c index cfg tid _ sub table field s e hsub hix hcol (by omega) hse,
    get_param_field_expanded c index cfg tid _ table field s e hid hcol]
  unfold Param.decodeSlice
  rw [Props.C18.C18_compressed_eq_expanded hdrC hdrX body hC hX s e h19]

end Cardutil.SrcTie
