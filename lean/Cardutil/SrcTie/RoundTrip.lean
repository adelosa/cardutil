import Cardutil.SrcTie.Writer
import Cardutil.SrcTie.Reader
/-
  The translated writer and the translated reader together (C03, unblocked): records written with
  the translated `VbsWriter.write`, finalised with the translated `close`, and read back by
  iterating the translated `VbsReader.__next__` come back unchanged, in order, then end of data.
  Nothing in this statement mentions the hand-written models: they are only the bridge of the proof.
-/
namespace Cardutil.SrcTie

open Cardutil Cardutil.Py Cardutil.Vbs

/-- `for r in recs: writer.write(r)` with the translated method -/
def srcWriteAll : Bool × (Bytes × Int) → List Bytes → Outcome (Bool × (Bytes × Int))
  | st, [] => .ok st
  | st, r :: rs => (Src.VbsWriter_write st.1 st.2.1 st.2.2 r).bind (fun st' => srcWriteAll st' rs)

theorem src_write_all_eq (recs : List Bytes) (hr : ∀ r ∈ recs, r.length < 4294967296) :
    ∀ (s : Writer.St), s.blocked = false →
      srcWriteAll (wstate s) recs = .ok (wstate (recs.foldl (Writer.write 1012) s)) ∧
      (recs.foldl (Writer.write 1012) s).blocked = false := by
  induction recs with
  | nil => intro s hb; exact ⟨rfl, hb⟩
  | cons r rs ih =>
    intro s hb
    show (Src.VbsWriter_write s.closed s.file.data (s.file.pos : Int) r).bind _ = _ ∧ _
    rw [writer_write_eq s hb r (hr r (by simp)), bind_ok_eq]
    exact ih (fun x hx => hr x (by simp [hx])) _ ((Writer.write_blocked 1012 s r).trans hb)

/-- C03 for the code as translated, writer AND reader: write the records, close, read back -/
theorem C03_source_roundtrip (recs : List Bytes) (hmax : Gen.maxVbsRecordLength < 4294967296)
    (h : ∀ r ∈ recs, 0 < r.length ∧ r.length ≤ Gen.maxVbsRecordLength) :
    ∃ st1 st2, srcWriteAll (false, ([], (0 : Int))) recs = .ok st1 ∧
      Src.VbsWriter_close st1.1 st1.2.1 st1.2.2 = .ok st2 ∧
      srcReadAll (st2.2.1.length + 1) ((1 : Int), ([], st2.2.1)) = (recs, .eof) := by
  obtain ⟨hw, hbl⟩ := src_write_all_eq recs (fun r hr => Nat.lt_of_le_of_lt (h r hr).2 hmax) (Writer.init 1012 false) rfl
  exact ⟨_, _, hw, writer_close_eq _ hbl, C03_source_read recs hmax h⟩

theorem write_many_eq (recs : List Bytes) : ∀ (fin : Bool) (data : Bytes) (pos : Int),
    Src.VbsWriter_write_many fin data pos recs = srcWriteAll (fin, (data, pos)) recs := by
  intro fin data pos
  rw [eq_forO _ srcWriteAll (fun _ => rfl) (fun _ _ _ => rfl)]
  -- the generated text takes the state apart and puts it together again around each call: up to that it is this loop
  show (Rt.forO (fun st r => (Src.VbsWriter_write st.1 st.2.1 st.2.2 r).bind (fun sc => .ok sc)) recs _).bind
    (fun sc => .ok sc) = _
  simp only [bind_ok_right]

/-- C03 through the convenience loop: `write_many`, `close`, then reading back -/
theorem C03_source_write_many_roundtrip (recs : List Bytes) (hmax : Gen.maxVbsRecordLength < 4294967296)
    (h : ∀ r ∈ recs, 0 < r.length ∧ r.length ≤ Gen.maxVbsRecordLength) :
    ∃ st1 st2, Src.VbsWriter_write_many false [] (0 : Int) recs = .ok st1 ∧
      Src.VbsWriter_close st1.1 st1.2.1 st1.2.2 = .ok st2 ∧
      srcReadAll (st2.2.1.length + 1) ((1 : Int), ([], st2.2.1)) = (recs, .eof) := by
  rw [write_many_eq]
  exact C03_source_roundtrip recs hmax h

end Cardutil.SrcTie
