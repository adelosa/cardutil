import Cardutil.Py.Rt
/-
  Lemmas about the string-keyed dictionaries of the translated source (`Rt.SDict`, `Py/Rt.lean`): what a lookup
  answers entry by entry, what an assignment does, and `d[k]`, `k in d`, the key list in terms of `d.get(k)`.
-/
namespace Cardutil.SrcTie

open Cardutil Cardutil.Py

theorem dictGetOpt_cons {β} (k' : Text) (v : β) (rest : Rt.SDict β) (k : Text) :
    Rt.dictGetOpt ((k', v) :: rest) k = if k' == k then some v else Rt.dictGetOpt rest k := by
  simp only [Rt.dictGetOpt, List.find?_cons]; cases k' == k <;> rfl

theorem dictGet_eq {β} (d : Rt.SDict β) (k : Text) :
    Rt.dictGet d k = match Rt.dictGetOpt d k with | some v => .ok v | none => .escape .keyError := by
  unfold Rt.dictGet Rt.dictGetOpt; cases d.find? (·.1 == k) <;> rfl

theorem dictGet_cons {β} (k' : Text) (v : β) (rest : Rt.SDict β) (k : Text) :
    Rt.dictGet ((k', v) :: rest) k = if k' = k then .ok v else Rt.dictGet rest k := by
  rw [dictGet_eq, dictGetOpt_cons, dictGet_eq]
  by_cases h : k' = k
  · rw [if_pos h, if_pos (beq_iff_eq.mpr h)]
  · rw [if_neg h, if_neg (by simpa using h)]

theorem dictGet_first {β} (k : Text) (v : β) (rest : Rt.SDict β) : Rt.dictGet ((k, v) :: rest) k = .ok v := by
  rw [dictGet_cons, if_pos rfl]

theorem dictHas_eq {β} (d : Rt.SDict β) (k : Text) : Rt.dictHas d k = (Rt.dictGetOpt d k).isSome := by
  unfold Rt.dictHas Rt.dictGetOpt
  rw [Option.isSome_map, Bool.eq_iff_iff, List.find?_isSome, List.any_eq_true]

theorem mem_dictKeys {β} (d : Rt.SDict β) (k : Text) : k ∈ Rt.dictKeys d ↔ (Rt.dictGetOpt d k).isSome = true := by
  rw [← dictHas_eq]; simp [Rt.dictKeys, Rt.dictHas]

theorem dictHas_iff {β} (d : Rt.SDict β) (k : Text) : Rt.dictHas d k = true ↔ ∃ v, Rt.dictGet d k = .ok v := by
  rw [dictHas_eq, dictGet_eq]; cases Rt.dictGetOpt d k <;> simp

theorem dictGet_of_key {β} (d : Rt.SDict β) (k : Text) (h : k ∈ Rt.dictKeys d) :
    ∃ e, Rt.dictGet d k = .ok e ∧ Rt.dictGetOpt d k = some e := by
  rw [mem_dictKeys] at h
  rw [dictGet_eq]
  cases hg : Rt.dictGetOpt d k with
  | none => rw [hg] at h; cases h
  | some e => exact ⟨e, rfl, rfl⟩

theorem dictGet_of_mem {β} (d : Rt.SDict β) (hnd : (d.map (·.1)).Nodup) (k : Text) (v : β) (h : (k, v) ∈ d) :
    Rt.dictGet d k = .ok v := by
  induction d with
  | nil => cases h
  | cons kv rest ih =>
    obtain ⟨k', v'⟩ := kv
    have hnd2 := List.nodup_cons.mp hnd
    rw [dictGet_cons]
    rcases List.mem_cons.mp h with e | hm
    · cases e; rw [if_pos rfl]
    · rw [if_neg (fun e => hnd2.1 (List.mem_map.mpr ⟨(k, v), hm, e.symm⟩))]
      exact ih hnd2.2 hm

theorem dictSet_new {β} (d : Rt.SDict β) (k : Text) (v : β) (h : k ∉ d.map (·.1)) :
    Rt.dictSet d k v = d ++ [(k, v)] := by
  fun_induction Rt.dictSet d k v with
  | case1 => rfl
  | case2 k' v' rest k v hk => exact absurd (beq_iff_eq.mp hk ▸ List.mem_cons_self) h
  | case3 k' v' rest k v _ ih => rw [ih fun hm => h (List.mem_cons_of_mem _ hm), List.cons_append]

/-- a loop that assigns `d[k] = g k` for distinct keys not yet in `d` appends them in order -/
theorem forO_dictSet_fresh {β} (g : Text → Outcome β) (ks : List Text) (hnd : ks.Nodup) (acc : Rt.SDict β)
    (h : ∀ k ∈ ks, k ∉ acc.map (·.1)) :
    Rt.forO (fun st k => (g k).bind fun t => .ok (Rt.dictSet st k t)) ks acc =
      (Outcome.mapO g ks).bind fun vs => .ok (acc ++ ks.zip vs) := by
  induction ks generalizing acc with
  | nil => simp [Rt.forO, Outcome.mapO, bind_ok_eq]
  | cons k ks ih =>
    have hnd2 := List.nodup_cons.mp hnd
    simp only [Rt.forO, Outcome.mapO, Outcome.bind_assoc, bind_ok_eq]
    refine Outcome.bind_congr fun t _ => ?_
    rw [dictSet_new acc k t (h k (by simp)), ih hnd2.2]
    · simp
    · intro k' hk'
      simp only [List.map_append, List.map_cons, List.map_nil, List.mem_append, List.mem_singleton, not_or]
      exact ⟨h k' (by simp [hk']), fun e => hnd2.1 (e ▸ hk')⟩

theorem mem_dictSet {β} {d : Rt.SDict β} {k : Text} {v : β} {x : Text × β} (h : x ∈ Rt.dictSet d k v) :
    x = (k, v) ∨ x ∈ d := by
  fun_induction Rt.dictSet d k v with
  | case1 k v => simpa using h
  | case2 k' v' rest k v _ => exact (List.mem_cons.mp h).imp_right (List.mem_cons_of_mem _)
  | case3 k' v' rest k v _ ih =>
    rcases List.mem_cons.mp h with h | h
    · exact .inr (h ▸ List.mem_cons_self)
    · exact (ih h).imp_right (List.mem_cons_of_mem _)

theorem forall_dictSet {β} {P : Text × β → Prop} {d : Rt.SDict β} (h : ∀ kv ∈ d, P kv) {k : Text} {v : β} (hk : P (k, v)) :
    ∀ kv ∈ Rt.dictSet d k v, P kv :=
  fun kv hkv => (mem_dictSet hkv).elim (fun e => e ▸ hk) (h kv)

end Cardutil.SrcTie
