import Cardutil.Gen.Src
/-
  Source tie for the public entry points `iso8583.dumps` and `iso8583.loads` (C01, C02): the optional arguments — `None`
  or an empty value means the default encoding / the packaged element table (a parameter of the translation) — and the
  call of the worker (`_dict_to_iso8583` / `_iso8583_to_dict`, external functions here).  Both resolve their defaults
  alike, so what one writes with given arguments the other reads with the same arguments.
-/
namespace Cardutil.SrcTie

open Cardutil Cardutil.Py

/-- `x if x else d` for an optional argument: None and the empty value give the default -/
def orDefault {α} (x : Option (List α)) (d : List α) : List α :=
  match x with
  | some v => if v.isEmpty then d else v
  | none => d

/-- 'latin_1' -/
def latin1Name : Text := [108, 97, 116, 105, 110, 95, 49]

abbrev EncWorker := Rt.SDict Rt.AnyVal → Rt.SDict Rt.BitCfg → Text → Bool → Outcome Bytes
abbrev DecWorker := Bytes → Rt.SDict Rt.BitCfg → Text → Bool → Outcome (Rt.SDict Rt.PyVal)

theorem dumps_eq (E : EncWorker) (obj : Rt.SDict Rt.AnyVal) (enc : Option Text) (cfg : Option (Rt.SDict Rt.BitCfg))
    (hex : Bool) (pkg : Rt.SDict Rt.BitCfg) :
    Src.dumps E obj enc cfg hex pkg = E obj (orDefault cfg pkg) (orDefault enc latin1Name) hex := by
  rcases enc with _ | e <;> rcases cfg with _ | c <;> dsimp only [Src.dumps, orDefault, latin1Name]
  · exact bind_ok_right _
  · cases c.isEmpty <;> exact bind_ok_right _
  · cases e.isEmpty <;> exact bind_ok_right _
  · cases e.isEmpty <;> cases c.isEmpty <;> exact bind_ok_right _

theorem loads_eq (L : DecWorker) (b : Bytes) (enc : Option Text) (cfg : Option (Rt.SDict Rt.BitCfg))
    (hex : Bool) (pkg : Rt.SDict Rt.BitCfg) :
    Src.loads L b enc cfg hex pkg = L b (orDefault cfg pkg) (orDefault enc latin1Name) hex := by
  rcases enc with _ | e <;> rcases cfg with _ | c <;> dsimp only [Src.loads, orDefault, latin1Name]
  · exact bind_ok_right _
  · cases c.isEmpty <;> exact bind_ok_right _
  · cases e.isEmpty <;> exact bind_ok_right _
  · cases e.isEmpty <;> cases c.isEmpty <;> exact bind_ok_right _

/-- with nothing given: latin-1 and the packaged table, binary bitmap — for the encoder and for the decoder -/
theorem C02_source_defaults (E : EncWorker) (L : DecWorker) (obj : Rt.SDict Rt.AnyVal) (b : Bytes) (pkg : Rt.SDict Rt.BitCfg) :
    Src.dumps E obj none none false pkg = E obj pkg latin1Name false ∧
    Src.loads L b none none false pkg = L b pkg latin1Name false :=
  ⟨dumps_eq E obj none none false pkg, loads_eq L b none none false pkg⟩

/-- C01 at the entry points: they resolve the optional arguments alike, so if the workers round-trip a message under
    the resolved configuration, encoding and bitmap form, so do `dumps` then `loads` called with the SAME arguments —
    whatever these are (nothing, an empty value, a caller's configuration, another encoding) -/
theorem C01_source_entry_roundtrip (E : EncWorker) (L : DecWorker) (obj : Rt.SDict Rt.AnyVal) (m : Rt.SDict Rt.PyVal)
    (enc : Option Text) (cfg : Option (Rt.SDict Rt.BitCfg)) (hex : Bool) (pkg : Rt.SDict Rt.BitCfg) (data : Bytes)
    (hE : E obj (orDefault cfg pkg) (orDefault enc latin1Name) hex = .ok data)
    (hL : L data (orDefault cfg pkg) (orDefault enc latin1Name) hex = .ok m) :
    Src.dumps E obj enc cfg hex pkg = .ok data ∧ Src.loads L data enc cfg hex pkg = .ok m := by
  rw [dumps_eq, loads_eq]
  exact ⟨hE, hL⟩

/-- an EMPTY caller configuration is the packaged one (not "no element is configured") -/
theorem C02_source_empty_config_is_packaged (E : EncWorker) (obj : Rt.SDict Rt.AnyVal) (enc : Option Text) (hex : Bool)
    (pkg : Rt.SDict Rt.BitCfg) :
    Src.dumps E obj enc (some []) hex pkg = Src.dumps E obj enc none hex pkg := by
  rw [dumps_eq, dumps_eq]; rfl

end Cardutil.SrcTie
