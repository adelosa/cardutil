import Cardutil.SrcTie.Base
import Cardutil.Gen.Src
import Cardutil.Model.PinBlock
import Cardutil.Props.C13
import Cardutil.Props.C14
import Cardutil.Lemmas.Pin
/-
  Source tie for `cardutil.pinblock` and `cardutil.key` (C13, C14): the translated `Iso0PinBlock.to_bytes` /
  `from_bytes`, `Iso4PinBlock.to_bytes` / `from_bytes`, the decimalisation at the end of `calculate_pvv` and the
  combination loop of `get_zone_master_key` ARE the hand-written models `Pin.iso0ToBytes`, `Pin.iso0FromBytes`,
  `Pin.iso4ToBytes`, `Pin.iso4FromBytes`, `Pin.decimalise` and `Pin.combine`, for all inputs.
-/
namespace Cardutil.SrcTie

open Cardutil Cardutil.Py Cardutil.Digits

/-! On casts and on literals the hexadecimal built-ins of `Py/Rt.lean` (`Rt.xor`, `Rt.fmtHex`, `Rt.fmtHexW`, `Rt.ljust`,
`Rt.len`, `Rt.intFromBytes`, `Rt.unhexlify`) unfold to the model's functions of Py/Hex.lean: the closing `rfl` of each
proof below sees through them.  What needs a lemma: `int(s, 16)` under a continuation, the range check of `to_bytes`,
`hexlify` (the model's nibbles are `b / 16`, not `b / 16 % 16`) and the slices (SrcTie/Base.lean, the sign of a
literal bound by `decide`). -/

/-- `int(s, 16)` followed by a continuation: the model's `intHex`, the value used as an `Int` -/
theorem intHex_bind {β} (s : Text) (f : Int → Outcome β) :
    Outcome.bind (Rt.intHex s) f = Outcome.bind (Pin.intHex s) (fun n => f (n : Int)) := by
  unfold Rt.intHex
  cases Pin.intHex s <;> rfl

theorem toBytes_nat (n v : Nat) :
    Rt.toBytes n (v : Int) = if v < 256 ^ n then .ok (toDigits 256 n v) else .escape .overflowError := by
  simp [Rt.toBytes]

theorem ljust16 (c : Nat) (s : Text) : Rt.ljust (16 : Int) c s = Pin.ljust 16 c s := rfl

/-- `Iso0PinBlock.to_bytes` -/
theorem iso0_to_bytes_eq (pin pan : Text) : Src.Iso0PinBlock_to_bytes pin pan = Pin.iso0ToBytes pin pan := by
  unfold Src.Iso0PinBlock_to_bytes Pin.iso0ToBytes
  simp (disch := decide) only [slice_neg_neg, intHex_bind, bind_ok_right, Rt.xor, Int.toNat_natCast, toBytes_nat]
  rfl

/-- `Iso0PinBlock.from_bytes(...)` : the pin of the object it builds -/
theorem iso0_from_bytes_eq (blk : Bytes) (pan : Text) :
    Src.Iso0PinBlock_from_bytes blk pan = Pin.iso0FromBytes blk pan := by
  unfold Src.Iso0PinBlock_from_bytes Pin.iso0FromBytes
  simp (disch := decide) only [slice_neg_neg, intHex_bind, slice_add, slice_mid]
  rfl

/-- `Iso4PinBlock.to_bytes` for an object created with the random value `rnd` -/
theorem iso4_to_bytes_eq (pin : Text) (rnd : Nat) :
    Src.Iso4PinBlock_to_bytes pin (rnd : Int) = Pin.iso4ToBytes pin rnd := bind_ok_right _

def IsBytes (b : Bytes) : Prop := ∀ x ∈ b, x < 256

/-- `binascii.hexlify` of bytes: the nibbles as lowercase hex digits -/
theorem hexlify_eq (b : Bytes) (h : IsBytes b) : Rt.hexlify b = (Pin.bytesToNibbles b).map Pin.hexChar := by
  rw [Pin.bytesToNibbles, List.map_flatMap, Rt.hexlify, List.flatMap_def, List.flatMap_def]
  exact congrArg _ (List.map_congr_left fun x hx => by rw [Nat.mod_eq_of_lt (Nat.div_lt_of_lt_mul (h x hx))]; rfl)

/-- `Iso4PinBlock.from_bytes(...)`: the pin of the object it builds -/
theorem iso4_from_bytes_eq (blk : Bytes) (h : IsBytes blk) :
    Src.Iso4PinBlock_from_bytes blk = Pin.iso4FromBytes blk := by
  unfold Src.Iso4PinBlock_from_bytes Pin.iso4FromBytes
  simp (disch := decide) only [hexlify_eq blk h, intHex_bind, slice_add, slice_mid]
  rfl

/-! ### the decimalisation at the end of `calculate_pvv` -/

theorem digit_class : ∀ n, n < 16 → Gen.strDigits.contains (Pin.hexChar n) = decide (n < 10) := by decide

theorem alpha_class : ∀ n, n < 16 → Rt.isAlphaAscii (Pin.hexChar n) = decide (10 ≤ n) := by decide

theorem letter_value : ∀ n, n < 16 → 10 ≤ n →
    Outcome.bind (Rt.intHex [Pin.hexChar n]) (fun t1 => Outcome.ok (Rt.strOfInt (t1 - (10 : Int)))) =
      .ok [48 + (n - 10)] := by decide +kernel

theorem joinStr_singletons (l : Text) : Rt.joinStr (l.map fun ch => [ch]) = l := by
  induction l with
  | nil => rfl
  | cons x xs ih => exact congrArg (x :: ·) ih

theorem nibbles_lt (b : Bytes) (h : IsBytes b) : ∀ n ∈ Pin.bytesToNibbles b, n < 16 := Pin.bytesToNibbles_lt h

/-- the last statements of `calculate_pvv` (from `values_pass1 = ...` on), as a function of the ciphertext -/
theorem decimalise_eq (ct : Bytes) (h : IsBytes ct) :
    Src.calculate_pvv_decimalise ct = .ok (Pin.decimalise (Pin.bytesToNibbles ct)) := by
  have hn := nibbles_lt ct h
  unfold Src.calculate_pvv_decimalise Pin.decimalise
  rw [hexlify_eq ct h]
  generalize Pin.bytesToNibbles ct = ns at hn
  -- both scans are comprehensions over the hex digits: their conditions and values are tables on the sixteen nibbles
  simp (disch := decide) only [List.map_id', filter_map_congr fun n hm => digit_class n (hn n hm),
    filter_map_congr fun n hm => alpha_class n (hn n hm), slice_0_to]
  rw [Outcome.mapO_map_ok _ _ ((fun ch => [ch]) ∘ fun n => 48 + (n - 10)) _ fun n hm =>
    letter_value n (hn n (List.mem_filter.mp hm).1) (of_decide_eq_true (List.mem_filter.mp hm).2),
    bind_ok_eq, ← List.map_map, ← List.map_append, ← List.map_take, joinStr_singletons]
  by_cases c : ((ns.filter (· < 10)).map Pin.hexChar).length < 4
  · rw [if_pos c]; exact if_pos (decide_eq_true (Int.ofNat_lt.mpr c))
  · rw [if_neg c, List.append_nil]; exact if_neg fun e => c (Int.ofNat_lt.mp (of_decide_eq_true e))

/-! ### the combination loop of `get_zone_master_key` -/

theorem parseHexText_spec : ∀ (t : Text) (ns : List Nat), Pin.parseHexText t = some ns →
    ns.length = t.length ∧ ∀ n ∈ ns, n < 16 := Pin.parseHexText_spec

/-- `int(t, 16) < 16 ** len(t)` -/
theorem intHex_lt {t : Text} {x : Nat} (h : Pin.intHex t = .ok x) : x < 16 ^ t.length := Pin.intHex_lt h

/-- text written with `f'{v:0{w}x}'` reads back as `v` -/
theorem intHex_toDigits (w v : Nat) (hw : 1 ≤ w) (hv : v < 16 ^ w) :
    Pin.intHex ((toDigits 16 w v).map Pin.hexChar) = .ok v := by
  rw [Pin.intHex_hexChars (fun e => by have := length_toDigits 16 w v; rw [e] at this; simp at this; omega)
    (toDigits_lt (by decide) w v), fromDigits_toDigits w v hv]

/-- one pass of the loop body -/
def combineStep (st key_part : Text) : Outcome Text :=
  Outcome.bind (Rt.intHex st) (fun t1 =>
    Outcome.bind (Rt.intHex key_part) (fun t2 =>
      .ok (Rt.fmtHexW (max (Rt.len st) (Rt.len key_part)) (Rt.xor t1 t2))))

/-- one pass from an accumulated text `f'{v:0{w}x}'` with `v < 16^w`: the component is read; width and value move on -/
theorem combineStep_eq (w v : Nat) (part : Text) (hw : 1 ≤ w) (hv : v < 16 ^ w) :
    combineStep ((toDigits 16 w v).map Pin.hexChar) part =
      (Pin.intHex part).bind fun x => .ok ((toDigits 16 (max w part.length) (v ^^^ x)).map Pin.hexChar) := by
  unfold combineStep
  rw [intHex_bind, intHex_toDigits w v hw hv, bind_ok_eq, intHex_bind]
  refine Outcome.bind_congr fun x hx => ?_
  rw [← Pin.fmtHexW_of_lt (Pin.xor_lt_pow16 hv (Pin.intHex_lt hx)), Rt.len, Rt.len, List.length_map, length_toDigits,
    show max (w : Int) part.length = (max w part.length : Nat) by omega]
  rfl

/-- the loop, from any accumulated text `f'{v:0{w}x}'` with `v < 16^w` -/
theorem combine_loop : ∀ (parts : List Text) (w v : Nat), 1 ≤ w → v < 16 ^ w →
    Rt.forO combineStep parts ((toDigits 16 w v).map Pin.hexChar) =
      Outcome.bind (Outcome.mapO Pin.intHex parts) (fun vals =>
        .ok ((Pin.fmtHexW (parts.foldl (fun w p => max w p.length) w) (vals.foldl (· ^^^ ·) v)).map Pin.hexChar)) := by
  intro parts
  induction parts with
  | nil => intro w v _ hv; exact congrArg (fun d => Outcome.ok (d.map Pin.hexChar)) (Pin.fmtHexW_of_lt hv).symm
  | cons part parts ih =>
    intro w v hw hv
    rw [Rt.forO, combineStep_eq w v part hw hv, Outcome.mapO, Outcome.bind_assoc, Outcome.bind_assoc]
    refine Outcome.bind_congr fun x hx => ?_
    rw [bind_ok_eq, ih _ _ (Nat.le_trans hw (Nat.le_max_left ..)) (Pin.xor_lt_pow16 hv (Pin.intHex_lt hx)),
      Outcome.bind_assoc]
    rfl

/-- the statements of `get_zone_master_key` up to `binary_key = ...`: the clear key text (the loop starts from
    `'00' * 16`, which is `f'{0:032x}'`) -/
theorem combine_eq (parts : List Text) : Src.get_zone_master_key_combine parts = Pin.combine parts := by
  unfold Src.get_zone_master_key_combine
  rw [show Rt.mulSeq [48, 48] (16 : Int) = (toDigits 16 32 0).map Pin.hexChar by rw [toDigits_zero]; rfl]
  exact (bind_ok_right _).trans (combine_loop parts 32 0 (by decide) (by decide))

/-! ### C13 and C14 restated for the translated code -/

theorem isBytes_toDigits (w v : Nat) : IsBytes (toDigits 256 w v) := toDigits_lt (by decide) w v

/-- C13, format 0, for the TRANSLATED `Iso0PinBlock.to_bytes` / `from_bytes`: every PIN of 4..12 digits with every PAN
    of 13 or more digits gives an 8-byte block whose nibbles are P1 XOR P2, and reading it back gives the PIN -/
theorem C13_source_iso0 (pin pan : Text) (hpin : Pin.AllDigits pin) (hl4 : 4 ≤ pin.length) (hl12 : pin.length ≤ 12)
    (hpan : Pin.AllDigits pan) (hpl : 13 ≤ pan.length) :
    ∃ blk, Src.Iso0PinBlock_to_bytes pin pan = .ok blk ∧ blk.length = 8 ∧
      Pin.bytesToNibbles blk = List.zipWith (· ^^^ ·) (Pin.p1Nibbles pin) (Pin.p2Nibbles pan) ∧
      Src.Iso0PinBlock_from_bytes blk pan = .ok pin := by
  simp only [iso0_to_bytes_eq, iso0_from_bytes_eq]
  exact Props.C13.C13_iso0 pin pan hpin hl4 hl12 hpan hpl

/-- C13, format 4, for the TRANSLATED `Iso4PinBlock.to_bytes` / `from_bytes` -/
theorem C13_source_iso4 (pin : Text) (rnd : Nat) (hpin : Pin.AllDigits pin) (hl4 : 4 ≤ pin.length) (hl12 : pin.length ≤ 12)
    (hr : rnd < 2 ^ 64) :
    ∃ blk, Src.Iso4PinBlock_to_bytes pin (rnd : Int) = .ok blk ∧ blk.length = 16 ∧
      Pin.bytesToNibbles blk = Pin.f4Nibbles pin ++ toDigits 16 16 rnd ∧
      Src.Iso4PinBlock_from_bytes blk = .ok pin := by
  obtain ⟨blk, h1, h2, h3, h4⟩ := Props.C13.C13_iso4 pin rnd hpin hl4 hl12 hr
  exact ⟨blk, (iso4_to_bytes_eq pin rnd).trans h1, h2, h3, (iso4_from_bytes_eq blk (Pin.unhexlify_ok h1).2).trans h4⟩

/-- C14, PVV, for the TRANSLATED decimalisation: whatever 8 bytes the cipher returns, the result is four decimal
    digits: the first scan's digits in order, topped up from the second scan (A–F read as 0–5) -/
theorem C14_source_decimalise (ct : Bytes) (hlen : ct.length = 8) (hb : IsBytes ct) :
    ∃ r, Src.calculate_pvv_decimalise ct = .ok r ∧ r.length = 4 ∧ Pin.AllDigits r ∧
      r = Pin.decimalise (Pin.bytesToNibbles ct) := by
  have h := Props.C14.C14_decimalise _ (by rw [Pin.bytesToNibbles_length, hlen]) (nibbles_lt ct hb)
  exact ⟨_, decimalise_eq ct hb, h.1, h.2.1, rfl⟩

/-- C14, key components, for the TRANSLATED combination loop: components of `L ≥ 32` hex digits each give the
    `L`-digit text of their XOR — independent of their order, a component given twice cancels -/
theorem C14_source_combine (L : Nat) (hL : 32 ≤ L) (parts : List (List Nat))
    (h : ∀ p ∈ parts, p.length = L ∧ ∀ n ∈ p, n < 16) (hne : parts ≠ [] ∨ L = 32) :
    Src.get_zone_master_key_combine (parts.map (·.map Pin.hexChar)) =
      .ok ((toDigits 16 L (Pin.combineVal (parts.map (fromDigits 16)))).map Pin.hexChar) := by
  rw [combine_eq]
  exact Props.C14.C14_combine_text_w L hL parts h hne

end Cardutil.SrcTie
