import Cardutil.SrcTie.Block
import Cardutil.Model.Vbs
import Cardutil.Props.C11
/-
  Source tie for `mciipm.VbsWriter.write`, `.close` and `.__exit__` on an unblocked in-memory file
  (C03, C11): the state is (`_finalised`, file data, file position); `out_file.write(e)` writes at
  the position, `out_file.seek(n)` sets it.  The translated methods ARE the model's `Writer.write`
  and `Writer.close`.
-/
namespace Cardutil.SrcTie

open Cardutil Cardutil.Py

theorem packI_eq (n : Nat) (h : n < 4294967296) : Rt.packI (n : Int) = .ok (be32 n) := by
  unfold Rt.packI be32
  have : (0 ≤ (n : Int) ∧ (n : Int) < 4294967296) := ⟨Int.natCast_nonneg n, Int.ofNat_lt.mpr h⟩
  rw [if_pos this, Int.toNat_natCast]

theorem packI_zero : Rt.packI (0 : Int) = .ok (be32 0) := packI_eq 0 (by decide)

theorem fwrite_eq (f : File) (b : Bytes) :
    Rt.fwrite f.data (f.pos : Int) b = ((f.write b).data, ((f.write b).pos : Int)) := by
  unfold Rt.fwrite File.write
  simp only [Int.toNat_natCast, Int.natCast_add]

/-- the unblocked writer state of the model, as the translated methods see it -/
def wstate (s : Writer.St) : Bool × (Bytes × Int) := (s.closed, (s.file.data, (s.file.pos : Int)))

theorem writer_write_eq (s : Writer.St) (hb : s.blocked = false) (r : Bytes) (hr : r.length < 4294967296) :
    Src.VbsWriter_write s.closed s.file.data (s.file.pos : Int) r = .ok (wstate (Writer.write 1012 s r)) := by
  rw [Writer.write_unblocked 1012 s hb r]
  unfold Src.VbsWriter_write
  dsimp only
  have hp : Rt.packI (Rt.len r) = .ok (be32 r.length) := packI_eq r.length hr
  rw [hp]
  generalize be32 r.length = hdr
  show Outcome.ok _ = _
  rw [fwrite_eq s.file hdr]
  simp only []
  rw [fwrite_eq (s.file.write hdr) r]
  rfl

theorem writer_close_eq (s : Writer.St) (hb : s.blocked = false) :
    Src.VbsWriter_close s.closed s.file.data (s.file.pos : Int) = .ok (wstate (Writer.close 1012 s)) := by
  unfold Src.VbsWriter_close
  by_cases hc : s.closed = true
  · rw [if_pos hc]
    have : Writer.close 1012 s = s := by simp [Writer.close, hc]
    rw [this]; rfl
  · have hc' : s.closed = false := by simpa using hc
    rw [if_neg hc, Writer.close_unblocked 1012 s hb hc']
    rw [packI_zero]
    generalize be32 0 = hdr
    show Outcome.ok _ = _
    rw [fwrite_eq s.file hdr]
    rfl

/-- leaving the `with` block is `close()` -/
theorem writer_exit_eq (s : Writer.St) (hb : s.blocked = false) :
    Src.VbsWriter_exit s.closed s.file.data (s.file.pos : Int) () () () = .ok (wstate (Writer.close 1012 s)) := by
  unfold Src.VbsWriter_exit
  rw [writer_close_eq s hb]
  rfl

/-- `close()` or leaving the `with` block, with the translated methods -/
def srcFin (st : Bool × (Bytes × Int)) (f : Writer.Fin) : Outcome (Bool × (Bytes × Int)) :=
  match f with
  | .close => Src.VbsWriter_close st.1 st.2.1 st.2.2
  | .exit => Src.VbsWriter_exit st.1 st.2.1 st.2.2 () () ()

def srcFins : Bool × (Bytes × Int) → List Writer.Fin → Outcome (Bool × (Bytes × Int))
  | st, [] => .ok st
  | st, f :: fs => (srcFin st f).bind (fun st' => srcFins st' fs)

theorem src_fins_eq (fs : List Writer.Fin) : ∀ (s : Writer.St), s.blocked = false →
    srcFins (wstate s) fs = .ok (wstate (fs.foldl (Writer.fin 1012) s)) := by
  induction fs with
  | nil => intro s _; rfl
  | cons f fs ih =>
    intro s hb
    have hstep : srcFin (wstate s) f = .ok (wstate (Writer.close 1012 s)) := by
      cases f
      · exact writer_close_eq s hb
      · exact writer_exit_eq s hb
    simp only [srcFins, hstep, Outcome.bind, List.foldl_cons, Writer.fin]
    exact ih _ ((Writer.close_blocked 1012 s).trans hb)

/-- C11 for the code as translated (unblocked writer): after any records, any non-empty history of
    translated `close()` / `__exit__` calls leaves exactly the state a single `close()` leaves —
    a second finalisation writes nothing -/
theorem C11_source (s : Writer.St) (hb : s.blocked = false) (f : Writer.Fin) (fs : List Writer.Fin) :
    srcFins (wstate s) (f :: fs) = srcFins (wstate s) [.close] := by
  rw [src_fins_eq (f :: fs) s hb, src_fins_eq [.close] s hb]
  congr 2
  rw [Writer.fins_eq_close, Writer.fins_eq_close]

end Cardutil.SrcTie
