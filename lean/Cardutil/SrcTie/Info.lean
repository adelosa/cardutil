import Cardutil.SrcTie.Base
import Cardutil.Gen.Src
import Cardutil.Model.Info
import Cardutil.Props.C17
import Cardutil.SrcTie.Bits
import Cardutil.SrcTie.RtLoops
import Cardutil.SrcTie.Reader
import Cardutil.SrcTie.Block
/-
  Source tie for `mciipm.ipm_info` and its helpers `block_1014_check`, `encoding_check`, `bitmap_check` (C17).
-/
namespace Cardutil.SrcTie

open Cardutil Cardutil.Py

/-- each comparison and slice of the source is the model's at `P = 1012`; the nested conditionals then coincide -/
theorem block_check_eq (s : Bytes) : Src.block_1014_check s = Info.block1014Check s := by
  unfold Src.block_1014_check Info.block1014Check Info.blockCheck
  have hlt : decide (Rt.len s < (1014 : Int)) = decide (s.length < 1012 + 2) := len_lt s 1014
  have heq : (Rt.len s == (1014 : Int)) = decide (s.length = 1012 + 2) := len_beq s 1014
  have hge : decide (Rt.len s ≥ (2028 : Int)) = decide (2 * (1012 + 2) ≤ s.length) := len_ge s 2028
  have hs : Rt.slice s (some (2026 : Int)) (some (2028 : Int)) = (s.drop (1012 + 2 + 1012)).take 2 :=
    slice_nat s 2026 2028
  simp only [hlt, heq, hge, pp_eq, hs, Bool.and_eq_true, decide_eq_true_eq]
  by_cases h : s.length < 1012 + 2
  · rw [if_pos h, if_pos h]
  · have hfirst : Rt.slice (Rt.slice s (some 0) (some (1014 : Int))) (some (-(2 : Int))) none = (s.drop 1012).take 2 := by
      rw [slice_0_to _ _ (by decide), slice_from_neg _ _ (by decide)]
      have : (s.take (1014 : Int).toNat).length = 1014 := List.length_take_of_le (Nat.not_lt.mp h)
      rw [this, List.drop_take]
      rfl
    rw [if_neg h, if_neg h, hfirst]

/-- the result strings of `encoding_check` -/
def encName : Info.Enc → Text
  | .latin1 => Rt.lit "latin1"
  | .cp037 => Rt.lit "cp037"
  | .unknown => Rt.lit "unknown"

/-- `encoding_check`: the same decision, with the result strings 'latin1' / 'cp037' / 'unknown' -/
theorem encoding_check_eq (mti : Bytes) :
    Src.encoding_check mti = encName (Info.encodingCheck Gen.latin1Numeric Gen.cp037Numeric mti) := by
  unfold Src.encoding_check Info.encodingCheck Rt.allIn Info.allNumeric
  simp only [apply_ite encName]
  simp only [encName]
  -- the literals are compared without `String.toList` (see `lit_ofList`)
  repeat rw [lit_ofList]
  rfl

/-- C17(a) for the code as translated: every blocked file the library's writer produces is
    recognised as blocked by `block_1014_check` -/
theorem C17_source_blocked (recs : List Bytes) :
    Src.block_1014_check ((Writer.listToBytes 1012 true recs).take 2500) = true := by
  rw [block_check_eq]
  exact Props.C17.C17_blocked_writer_output recs

/-- first position (numbered from `k`) whose flag is set and which has no configuration -/
def scan (cfg : List Nat) : Nat → List Bool → Option Nat
  | _, [] => none
  | k, v :: vs => if v && !cfg.contains k then some k else scan cfg (k + 1) vs

theorem find_present (cfg : List Nat) : ∀ (vs : List Bool) (k : Nat),
    ((List.range vs.length).filterMap (fun i => if vs.getD i false then some (i + k) else none)).find?
      (fun b => !cfg.contains b) = scan cfg k vs := by
  intro vs
  induction vs with
  | nil => intro k; rfl
  | cons v vs ih =>
    intro k
    -- the flags after the first are numbered from `k + 1`
    rw [List.length_cons, List.range_succ_eq_map, List.filterMap_cons, List.filterMap_map, scan, ← ih (k + 1)]
    simp only [Function.comp_def, List.getD_cons_succ, List.getD_cons_zero, Nat.zero_add, Nat.succ_eq_add_one,
      Nat.add_assoc, Nat.add_comm 1 k]
    cases v
    · rfl
    · simp only [if_true, List.find?_cons, Bool.true_and]; cases cfg.contains k <;> rfl

/-- `f"Bitmap uses DE{b} which is not used in IPM"`, in the translator's code points as in `bitStep` (`reasonText`
    uses `Rt.lit` instead, which `ipm_info_eq` has to compare with the code points) -/
def reasonBitmap (b : Nat) : Text :=
  [66, 105, 116, 109, 97, 112, 32, 117, 115, 101, 115, 32, 68, 69] ++ Rt.strOfInt ((b : Nat) : Int) ++
    [32, 119, 104, 105, 99, 104, 32, 105, 115, 32, 110, 111, 116, 32, 117, 115, 101, 100, 32, 105, 110, 32, 73, 80, 77]

/-- the body of the `for` in `Src.bitmap_check` word for word (for a state that has not returned yet), so that
    `bitmap_check` is `forO bitStep` by `rfl` -/
def bitStep (st : Option (Bool × Text)) (p : Int × Bool) : Outcome (Option (Bool × Text)) :=
  match st with
  | some r => .ok (some r)
  | none =>
    if (p.1 == (0 : Int)) then .ok none
    else if p.2 then
      (if (!(Gen.configuredBits.any (fun e => decide (((e : Nat) : Int) = (p.1 + (1 : Int)))))) then
        .ok (some (false, ([66, 105, 116, 109, 97, 112, 32, 117, 115, 101, 115, 32, 68, 69] ++ (Rt.strOfInt (p.1 + (1 : Int))) ++
          [32, 119, 104, 105, 99, 104, 32, 105, 115, 32, 110, 111, 116, 32, 117, 115, 101, 100, 32, 105, 110, 32, 73, 80, 77])))
      else .ok none)
    else .ok none

theorem forO_returned (l : List (Int × Bool)) (r : Bool × Text) : Rt.forO bitStep l (some r) = .ok (some r) := by
  induction l with
  | nil => rfl
  | cons p l ih => simp only [Rt.forO, bitStep, Outcome.bind, ih]

theorem any_contains (cfg : List Nat) (j : Nat) :
    cfg.any (fun e => decide (((e : Nat) : Int) = ((j : Nat) : Int) + (1 : Int))) = cfg.contains (j + 1) := by
  rw [List.contains_eq_any_beq]
  congr 1; funext e
  rw [Bool.eq_iff_iff, decide_eq_true_iff, beq_iff_eq]; omega

/-- one round from a state that has not returned, past bit 0: the test is `scan`'s -/
theorem bitStep_none (j : Nat) (hj : 1 ≤ j) (v : Bool) :
    bitStep none ((j : Int), v) =
      .ok (if (v && !Gen.configuredBits.contains (j + 1)) = true then some (false, reasonBitmap (j + 1)) else none) := by
  have hz : (((j : Nat) : Int) == (0 : Int)) = false := by simpa using (by omega : ¬ ((j : Int) = 0))
  simp only [bitStep, hz, Bool.false_eq_true, if_false, any_contains]
  cases v <;> cases Gen.configuredBits.contains (j + 1) <;> rfl

theorem loop_scan : ∀ (l : List Bool) (j : Nat), 1 ≤ j →
    Rt.forO bitStep (Rt.enumerateGo ((j : Nat) : Int) l) none =
      .ok ((scan Gen.configuredBits (j + 1) l).map (fun b => (false, reasonBitmap b))) := by
  intro l
  induction l with
  | nil => intro j _; rfl
  | cons v vs ih =>
    intro j hj
    rw [Rt.enumerateGo, Rt.forO, bitStep_none j hj, bind_ok_eq, scan]
    split
    · exact forO_returned _ _
    · exact ih (j + 1) (Nat.le_add_left 1 j)

/-- `bitmap_check` on a 16-byte bitmap: (True, no reason) or (False, the reason naming the first unconfigured element) -/
theorem bitmap_check_eq (bm : Bytes) (h16 : bm.length = 16) (hb : IsBytes bm) :
    Src.bitmap_check bm = .ok (match Info.bitmapCheck Gen.configuredBits bm with
      | none => (true, ([] : Text))
      | some b => (false, reasonBitmap b)) := by
  show Outcome.bind (Src.BitArray_tolist bm) (fun bits => Outcome.bind (Rt.forO bitStep (Rt.enumerate bits) none) _) = _
  rw [tolist_eq bm hb (by rintro rfl; cases h16), bind_ok_eq, Info.bitmapCheck, Iso.presentBits]
  match Iso.bitsOfBytes bm, (Iso.bitsOfBytes_length bm).trans (congrArg (8 * ·) h16) with
  | b0 :: rest, hl =>
    -- bit 0 is skipped by the loop and left out by `presentBits`
    rw [show Rt.forO bitStep (Rt.enumerate (b0 :: rest)) none = Rt.forO bitStep (Rt.enumerateGo ((1 : Nat) : Int) rest) none from rfl,
      loop_scan rest 1 (Nat.le_refl 1), ← find_present, Nat.succ.inj hl]
    simp only [List.getD_cons_succ]
    cases List.find? _ _ <;> rfl

/-- the `reason` text of an invalid result (`n` = the first length field, `m` = the configured maximum) -/
def reasonText (n m : Nat) : Info.Reason → Text
  | .tooShort => Rt.lit "File does not have sufficient data to be valid"
  | .firstLengthTooLong =>
    Rt.lit "First IPM record length (" ++ Rt.strOfInt (n : Int) ++
      Rt.lit ") exceeds the configured maximum record length (" ++ Rt.strOfInt (m : Int) ++
      Rt.lit ") which usually indicates a file issue"
  | .bitmapUsesUnconfigured b => reasonBitmap b

/-- the dictionary `ipm_info` returns for a result of the model -/
def dictOf (n m : Nat) : Info.Result → Rt.SDict Rt.InfoVal
  | .invalid r => [(Rt.lit "isValidIPM", .bool false), (Rt.lit "reason", .str (reasonText n m r))]
  | .valid b e => [(Rt.lit "isValidIPM", .bool true), (Rt.lit "isBlocked", .bool b), (Rt.lit "encoding", .str (encName e))]

/-- `ipm_info` (the function as it stands in `cardutil/mciipm.py`, reading from an in-memory file of
    bytes) returns exactly the dictionary of the model's result -/
theorem ipm_info_eq (file : Bytes) (hb : IsBytes file) :
    Src.ipm_info file = .ok (dictOf (be32dec (file.take 4)) Gen.maxVbsRecordLength
      (Info.ipmInfo Gen.configuredBits Gen.maxVbsRecordLength Gen.latin1Numeric Gen.cp037Numeric file)) := by
  unfold Src.ipm_info Info.ipmInfo Info.ipmInfoP
  -- the function's exits in order: fewer than 24 bytes, first length above the maximum, a bitmap bit without
  -- configuration, valid; at each the returned dictionary is `dictOf` of the model's result once the literals are compared
  dsimp only
  rw [show Rt.slice file none (some (2500 : Int)) = file.take 2500 from slice_to _ _ (by decide)]
  generalize hS : file.take 2500 = s
  have hsb : IsBytes s := by
    intro x hx; rw [← hS] at hx; exact hb x (List.mem_of_mem_take hx)
  have h4 : s.take 4 = file.take 4 := by rw [← hS, List.take_take]; rfl
  rw [show decide (Rt.len s < (24 : Int)) = decide (s.length < 24) from len_lt s 24]
  by_cases hlen : s.length < 24
  · rw [if_pos (decide_eq_true hlen), if_pos hlen]
    simp only [dictOf, reasonText]
    repeat rw [lit_ofList]
    rfl
  · rw [if_neg (mt of_decide_eq_true hlen), if_neg hlen]
    have hl4 : Rt.slice s none (some (4 : Int)) = s.take 4 := slice_to _ _ (by decide)
    have hlen4 : (s.take 4).length = 4 := List.length_take_of_le (by omega)
    have hun : Rt.unpackI (s.take 4) = .ok ((be32dec (s.take 4) : Nat) : Int) := by
      unfold Rt.unpackI; rw [if_pos hlen4, be32_eq]
    rw [hl4, hun, bind_ok_eq]
    simp only [gt_iff_lt, Int.ofNat_lt]
    by_cases hmax : Gen.maxVbsRecordLength < be32dec (s.take 4)
    · rw [if_pos (decide_eq_true hmax), if_pos hmax, ← h4]
      simp only [dictOf, reasonText]
      repeat rw [lit_ofList]
      rfl
    · rw [if_neg (mt of_decide_eq_true hmax), if_neg hmax, natCast_lt_zero, if_neg Bool.false_ne_true]
      have hbm : Rt.slice s (some (8 : Int)) (some (24 : Int)) = (s.drop 8).take 16 := by
        rw [slice_mid _ _ _ (by decide) (by decide)]; rfl
      have hmti : Rt.slice s (some (4 : Int)) (some (8 : Int)) = (s.drop 4).take 4 := by
        rw [slice_mid _ _ _ (by decide) (by decide)]; rfl
      have hbm16 : ((s.drop 8).take 16).length = 16 := List.length_take_of_le (by rw [List.length_drop]; omega)
      have hbmb : IsBytes ((s.drop 8).take 16) := by
        intro x hx; exact hsb x (List.mem_of_mem_drop (List.mem_of_mem_take hx))
      rw [hbm, hmti, bitmap_check_eq _ hbm16 hbmb, bind_ok_eq]
      cases hc : Info.bitmapCheck Gen.configuredBits ((s.drop 8).take 16) with
      | some b =>
        simp only [dictOf, reasonText]
        repeat rw [lit_ofList]
        rfl
      | none =>
        simp only [Bool.not_true, Bool.false_eq_true, if_false, block_check_eq, encoding_check_eq, dictOf]
        repeat rw [lit_ofList]
        rfl

/-- C17 for the code as translated: a blocked file the library's writer produces from records whose
    first one starts a valid message header is reported valid and blocked -/
theorem C17_source_ipm_info_blocked (file : Bytes) (hb : IsBytes file)
    (b : Bool) (e : Info.Enc)
    (h : Info.ipmInfo Gen.configuredBits Gen.maxVbsRecordLength Gen.latin1Numeric Gen.cp037Numeric file = .valid b e) :
    Src.ipm_info file = .ok [(Rt.lit "isValidIPM", .bool true), (Rt.lit "isBlocked", .bool b),
      (Rt.lit "encoding", .str (encName e))] := by
  rw [ipm_info_eq file hb, h]; rfl

end Cardutil.SrcTie
