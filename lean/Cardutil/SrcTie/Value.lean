import Cardutil.SrcTie.Card
import Cardutil.SrcTie.Misc
/-
  Source tie for what the element decoder does with the decoded text of a card-number element (C16): the statements of
  `iso8583._iso8583_to_field` from `if field_processor == 'PAN':` up to `return_values = dict()` — the PAN processor
  (the masked form), the PAN-PREFIX processor (the leading digits), then the typed conversion under its handler.
  What leaves these statements is a function of the masked value (the prefix) only.
-/
namespace Cardutil.SrcTie

open Cardutil Cardutil.Py

/-- 'PAN' -/
def panName : Text := [80, 65, 78]
/-- 'PAN-PREFIX' -/
def panPrefixName : Text := [80, 65, 78, 45, 80, 82, 69, 70, 73, 88]

/-- the typed conversion under the decoder's handler (ValueError / InvalidOperation become the library's data error) -/
def convert (t : Text) (cfg : Rt.BitCfg) : Outcome Rt.PyVal :=
  Rt.catchData [.valueError, .decimalError] (Src._string_to_pytype t cfg)

theorem value_eq (d p : Text) (cfg : Rt.BitCfg) (bit : Int) :
    Src._iso8583_to_field_value d p cfg bit =
      if p == panName then convert (Card.mask d 42) cfg
      else if p == panPrefixName then convert (Card.panPrefix d) cfg else convert d cfg := by
  simp only [Src._iso8583_to_field_value, convert, panName, panPrefixName, bind_ok_right, mask_eq, pan_prefix_eq]
  rfl

theorem value_pan (d : Text) (cfg : Rt.BitCfg) (bit : Int) :
    Src._iso8583_to_field_value d panName cfg bit = convert (Card.mask d 42) cfg := by rw [value_eq]; rfl

theorem value_pan_prefix (d : Text) (cfg : Rt.BitCfg) (bit : Int) :
    Src._iso8583_to_field_value d panPrefixName cfg bit = convert (Card.panPrefix d) cfg := by rw [value_eq]; rfl

theorem value_plain (d p : Text) (cfg : Rt.BitCfg) (bit : Int) (h1 : p ≠ panName) (h2 : p ≠ panPrefixName) :
    Src._iso8583_to_field_value d p cfg bit = convert d cfg := by
  rw [value_eq, if_neg (by simpa using h1), if_neg (by simpa using h2)]

theorem mask_congr (a b : Text) (m : Nat) (hl : a.length = b.length) (h6 : a.take 6 = b.take 6)
    (h4 : a.drop (a.length - 4) = b.drop (b.length - 4)) : Card.mask a m = Card.mask b m :=
  Props.C16.C16_noninterference a b m hl h6 h4

/-- C16 for the decoder's statements as translated, PAN processor: the hidden digits do not reach the decoded value — two
    card numbers that differ only between the first six and the last four characters decode to the same value
    (whatever the element's configured type), and that value is the conversion of the masked form -/
theorem C16_source_hidden_digits_do_not_matter (a b : Text) (cfg : Rt.BitCfg) (bit : Int)
    (hl : a.length = b.length) (h6 : a.take 6 = b.take 6) (h4 : a.drop (a.length - 4) = b.drop (b.length - 4)) :
    Src._iso8583_to_field_value a panName cfg bit = Src._iso8583_to_field_value b panName cfg bit := by
  rw [value_pan, value_pan, mask_congr a b 42 hl h6 h4]

/-- … and for the PAN-PREFIX processor nothing beyond the first nine characters matters -/
theorem C16_source_prefix_only (a b : Text) (cfg : Rt.BitCfg) (bit : Int) (h9 : a.take 9 = b.take 9) :
    Src._iso8583_to_field_value a panPrefixName cfg bit = Src._iso8583_to_field_value b panPrefixName cfg bit := by
  rw [value_pan_prefix, value_pan_prefix]
  unfold Card.panPrefix
  rw [h9]

/-- for a text element (no typed conversion configured) the decoded value IS the masked form -/
theorem C16_source_text_value_is_mask (d : Text) (cfg : Rt.BitCfg) (bit : Int)
    (hc : Src._string_to_pytype (Card.mask d 42) cfg = .ok (.str (Card.mask d 42))) :
    Src._iso8583_to_field_value d panName cfg bit = .ok (.str (Card.mask d 42)) := by
  rw [value_pan]
  unfold convert
  rw [hc]
  rfl

end Cardutil.SrcTie
