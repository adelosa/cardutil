import Cardutil.SrcTie.RtLoops
import Cardutil.SrcTie.SDict
import Cardutil.Gen.Src
/-
  Source tie for the ELEMENT LOOP of `iso8583._iso8583_to_dict` (C08): the statements from
  `message_pointer = 0` to the end of the function, with the element decoder `_iso8583_to_field` and
  `_get_bitmap_list` as PARAMETERS (any functions of their types) — what is proved is a fact about the loop as
  written, whatever the element decoder does.  Then the whole function: its header statements, then that loop.
-/
namespace Cardutil.SrcTie

open Cardutil Cardutil.Py

theorem catch_ok {α} (ks : List ExcKind) (a : α) : Rt.catchData ks (Outcome.ok a) = .ok a := rfl

abbrev FieldDec := Int → Rt.BitCfg → Bytes → (Bytes → Outcome Text) → Outcome ((Rt.SDict Rt.PyVal) × Int)

/-- the loop body as translated (one pass, state = pointer and result dictionary) -/
def loopStep (F : FieldDec) (flags : List Bool) (cfg : Rt.SDict Rt.BitCfg) (enc : Bytes → Outcome Text) (data : Bytes)
    (st : Int × Rt.SDict Rt.PyVal) (bit : Int) : Outcome (Int × Rt.SDict Rt.PyVal) :=
  Outcome.bind (Rt.getItem flags bit) (fun t1 =>
    if t1 then
      (if (!(Rt.dictHas cfg (Rt.strOfInt bit))) then .dataError
       else
        Outcome.bind (Rt.dictGet cfg (Rt.strOfInt bit)) (fun t2 =>
          Outcome.bind (F bit t2 (Rt.slice data (some st.1) none) enc) (fun t3 =>
            .ok (st.1 + t3.2, Rt.dictUpdate st.2 t3.1))))
    else .ok (st.1, st.2))

theorem loop_unfold (G : Bytes → List Bool) (F : FieldDec) (message data bm : Bytes) (cfg : Rt.SDict Rt.BitCfg)
    (enc : Bytes → Outcome Text) (rv : Rt.SDict Rt.PyVal) :
    Src._iso8583_to_dict_loop G F message data bm cfg enc rv =
      Outcome.bind (Rt.forO (loopStep F (G bm) cfg enc data) (Rt.range 2 129) (0, rv)) (fun st =>
        if (st.1 != Rt.len data) then .dataError else .ok st.2) := rfl

/-- `Tiles F cfg enc data bs p acc p' acc'`: decoding the elements `bs` one after the other, the first at position `p` of
    `data` with result dictionary `acc`, ends at position `p'` with dictionary `acc'` — each element is configured, its decoder
    returns, and the next one starts where it ended -/
inductive Tiles (F : FieldDec) (cfg : Rt.SDict Rt.BitCfg) (enc : Bytes → Outcome Text) (data : Bytes) :
    List Int → Int → Rt.SDict Rt.PyVal → Int → Rt.SDict Rt.PyVal → Prop
  | nil (p acc) : Tiles F cfg enc data [] p acc p acc
  | cons (b bs p acc f e inc p' acc') :
      Rt.dictGet cfg (Rt.strOfInt b) = .ok f →
      F b f (Rt.slice data (some p) none) enc = .ok (e, inc) →
      Tiles F cfg enc data bs (p + inc) (Rt.dictUpdate acc e) p' acc' →
      Tiles F cfg enc data (b :: bs) p acc p' acc'

def flagged (flags : List Bool) (bs : List Int) : List Int := bs.filter (fun b => flags.getD b.toNat false)

theorem tiles_cons_iff {F : FieldDec} {cfg : Rt.SDict Rt.BitCfg} {enc : Bytes → Outcome Text} {data : Bytes} {b : Int}
    {bs : List Int} {p p' : Int} {acc acc' : Rt.SDict Rt.PyVal} :
    Tiles F cfg enc data (b :: bs) p acc p' acc' ↔ ∃ f, Rt.dictGet cfg (Rt.strOfInt b) = .ok f ∧ ∃ e inc,
      F b f (Rt.slice data (some p) none) enc = .ok (e, inc) ∧ Tiles F cfg enc data bs (p + inc) (Rt.dictUpdate acc e) p' acc' :=
  ⟨fun h => by cases h with | cons _ _ _ _ f e inc _ _ h1 h2 h3 => exact ⟨f, h1, e, inc, h2, h3⟩,
   fun ⟨f, h1, e, inc, h2, h3⟩ => .cons b bs p acc f e inc p' acc' h1 h2 h3⟩

/-- one pass of the loop followed by `P`: the flag decides whether the element is looked up and decoded first -/
theorem loopStep_then (F : FieldDec) (flags : List Bool) (cfg : Rt.SDict Rt.BitCfg) (enc : Bytes → Outcome Text)
    (data : Bytes) (b p : Int) (acc : Rt.SDict Rt.PyVal) (P : Int × Rt.SDict Rt.PyVal → Prop)
    (h0 : 0 ≤ b) (h1 : b.toNat < flags.length) :
    (∃ st, loopStep F flags cfg enc data (p, acc) b = .ok st ∧ P st) ↔
      if flags.getD b.toNat false then ∃ f, Rt.dictGet cfg (Rt.strOfInt b) = .ok f ∧ ∃ e inc,
        F b f (Rt.slice data (some p) none) enc = .ok (e, inc) ∧ P (p + inc, Rt.dictUpdate acc e)
      else P (p, acc) := by
  have hget : flags.getD b.toNat false = flags[b.toNat] := by simp [h1]
  simp only [loopStep, getItem_in flags b h0 h1, bind_ok_eq, hget]
  cases flags[b.toNat] with
  | false => simp
  | true =>
    cases hhas : Rt.dictHas cfg (Rt.strOfInt b) with
    | false =>
      have := mt (dictHas_iff cfg (Rt.strOfInt b)).mpr (by simp [hhas])
      simp only [Bool.not_false, if_true]
      exact ⟨fun ⟨_, h, _⟩ => (nomatch h), fun ⟨f, hf, _⟩ => absurd ⟨f, hf⟩ this⟩
    | true =>
      simp only [Bool.not_true, Bool.false_eq_true, if_false, if_true, exists_bind_eq_ok, exists_ok_eq, Prod.exists]

/-- the translated loop over any list of element numbers inside the flag list: it returns exactly when the
    flagged elements tile the data from the starting position -/
theorem forO_tiles (F : FieldDec) (flags : List Bool) (cfg : Rt.SDict Rt.BitCfg) (enc : Bytes → Outcome Text) (data : Bytes) :
    ∀ (bs : List Int) (p : Int) (acc : Rt.SDict Rt.PyVal) (p' : Int) (acc' : Rt.SDict Rt.PyVal),
      (∀ b ∈ bs, 0 ≤ b ∧ b.toNat < flags.length) →
      (Rt.forO (loopStep F flags cfg enc data) bs (p, acc) = .ok (p', acc') ↔
        Tiles F cfg enc data (flagged flags bs) p acc p' acc') := by
  intro bs
  induction bs with
  | nil =>
    intro p acc p' acc' _
    rw [forO_nil_eq_ok]
    exact ⟨fun h => by cases h; exact .nil _ _, fun h => by cases h; rfl⟩
  | cons b bs ih =>
    intro p acc p' acc' hin
    have hb := hin b List.mem_cons_self
    have ih := fun p acc => ih p acc p' acc' (fun x hx => hin x (List.mem_cons_of_mem _ hx))
    rw [forO_cons_eq_ok, loopStep_then F flags cfg enc data b p acc _ hb.1 hb.2, flagged, List.filter_cons]
    simp only [ih, flagged]
    cases flags.getD b.toNat false with
    | true => exact tiles_cons_iff.symm
    | false => rfl

/-- C08 for the loop as translated: `_iso8583_to_dict` returns `d` exactly when the flagged elements 2..128, in
    ascending order, TILE the message data from 0 to `len(message_data)`, `d` being the result dictionary updated with
    their entries in that order.  The bitmap reader gives 129 entries: `_get_bitmap_list` puts the bitmap object at
    index 0, so that bit n is entry n. -/
theorem C08_source_loop_tiles (G : Bytes → List Bool) (F : FieldDec) (message data bm : Bytes) (cfg : Rt.SDict Rt.BitCfg)
    (enc : Bytes → Outcome Text) (rv d : Rt.SDict Rt.PyVal) (hG : (G bm).length = 129) :
    Src._iso8583_to_dict_loop G F message data bm cfg enc rv = .ok d ↔
      Tiles F cfg enc data (flagged (G bm) (Rt.range 2 129)) 0 rv (Rt.len data) d := by
  have hin : ∀ b ∈ Rt.range 2 129, 0 ≤ b ∧ b.toNat < (G bm).length := fun b hb => by
    have := mem_rtRange.mp hb
    exact ⟨Int.le_trans (by decide) this.1, hG ▸ (Int.toNat_lt' (by decide)).mpr this.2⟩
  simp only [loop_unfold, Outcome.bind_eq_ok, Prod.exists, forO_tiles F (G bm) cfg enc data _ _ _ _ _ hin]
  constructor
  · rintro ⟨p', acc', ht, h⟩
    split at h
    · cases h
    · rename_i hp
      cases h
      rwa [← (by simpa using hp : p' = Rt.len data)]
  · exact fun h => ⟨_, _, h, by simp⟩

/-- what `Tiles` says, spelled out: the positions are the running sums of the increments -/
theorem tiles_positions {F : FieldDec} {cfg : Rt.SDict Rt.BitCfg} {enc : Bytes → Outcome Text} {data : Bytes}
    {bs : List Int} {p p' : Int} {acc acc' : Rt.SDict Rt.PyVal} (h : Tiles F cfg enc data bs p acc p' acc') :
    ∃ incs : List Int, incs.length = bs.length ∧ p' = p + incs.sum := by
  induction h with
  | nil => exact ⟨[], rfl, by simp⟩
  | cons _ _ _ _ _ _ inc _ _ _ _ _ ih =>
    obtain ⟨incs, hl, hs⟩ := ih
    exact ⟨inc :: incs, by simp [hl], by rw [hs, List.sum_cons]; omega⟩

/-- nothing left over: when the loop returns, the increments of the flagged elements add up to the length
    of the message data -/
theorem C08_source_nothing_left_over (G : Bytes → List Bool) (F : FieldDec) (message data bm : Bytes)
    (cfg : Rt.SDict Rt.BitCfg) (enc : Bytes → Outcome Text) (rv d : Rt.SDict Rt.PyVal) (hG : (G bm).length = 129)
    (h : Src._iso8583_to_dict_loop G F message data bm cfg enc rv = .ok d) :
    ∃ incs : List Int, incs.length = (flagged (G bm) (Rt.range 2 129)).length ∧ incs.sum = (data.length : Int) := by
  obtain ⟨incs, hl, hs⟩ := tiles_positions ((C08_source_loop_tiles G F message data bm cfg enc rv d hG).mp h)
  refine ⟨incs, hl, ?_⟩
  unfold Rt.len at hs
  omega

/-- an element flagged in the bitmap that the configuration does not have is refused, after any elements `pre` that decode -/
theorem unconfigured_refused (F : FieldDec) (flags : List Bool) (cfg : Rt.SDict Rt.BitCfg) (enc : Bytes → Outcome Text)
    (data : Bytes) (pre : List Int) (b : Int) (bs : List Int) (p p₁ : Int) (acc acc₁ : Rt.SDict Rt.PyVal)
    (hpre : ∀ x ∈ pre, 0 ≤ x ∧ x.toNat < flags.length) (ht : Tiles F cfg enc data (flagged flags pre) p acc p₁ acc₁)
    (h0 : 0 ≤ b) (h1 : b.toNat < flags.length) (hflag : flags[b.toNat]'h1 = true)
    (hcfg : Rt.dictHas cfg (Rt.strOfInt b) = false) :
    Rt.forO (loopStep F flags cfg enc data) (pre ++ b :: bs) (p, acc) = .dataError := by
  rw [forO_append, (forO_tiles F flags cfg enc data pre p acc p₁ acc₁ hpre).mpr ht, bind_ok_eq]
  simp only [Rt.forO, loopStep, getItem_in flags b h0 h1, bind_ok_eq, hflag, if_true, hcfg, Bool.not_false]
  rfl

/-- an element flagged in the bitmap that the configuration does not have is refused (when the elements
    before it decode): stated for the first flagged element -/
theorem C08_source_unconfigured_refused (F : FieldDec) (flags : List Bool) (cfg : Rt.SDict Rt.BitCfg)
    (enc : Bytes → Outcome Text) (data : Bytes) (b : Int) (bs : List Int) (p : Int) (acc : Rt.SDict Rt.PyVal)
    (h0 : 0 ≤ b) (h1 : b.toNat < flags.length) (hflag : flags[b.toNat]'h1 = true)
    (hcfg : Rt.dictHas cfg (Rt.strOfInt b) = false) :
    Rt.forO (loopStep F flags cfg enc data) (b :: bs) (p, acc) = .dataError :=
  unconfigured_refused F flags cfg enc data [] b bs p p acc acc (fun _ h => nomatch h) (.nil p acc) h0 h1 hflag hcfg

/-- what the statements before the loop compute: the MTI text, the 16 bitmap bytes and the message data — or the
    library's data error (message shorter than its header, a hexadecimal bitmap that is no hexadecimal text, an MTI
    that does not decode or is no number) -/
def header (enc : Bytes → Outcome Text) (hex : Bool) (message : Bytes) : Outcome (Text × Bytes × Bytes) :=
  Outcome.bind (Rt.catchData [.structError, .binasciiError]
      (Rt.unpack3 4 (if hex then 32 else 16) (Rt.len message - (if hex then (36 : Int) else (20 : Int))) message)) (fun t =>
    Outcome.bind (if hex then Rt.catchData [.structError, .binasciiError] (Rt.unhexlify t.2.1) else .ok t.2.1) (fun bm =>
      Outcome.bind (Rt.catchData [.valueError, .unicodeError] (enc t.1)) (fun mti =>
        Outcome.bind (Rt.catchData [.valueError, .unicodeError] (Rt.pyvalInt Gen.intClasses (Rt.PyVal.str mti))) (fun _ =>
          .ok (mti, bm, t.2.2)))))

/-- `_iso8583_to_dict` as translated = its header statements followed by the element loop started with the MTI entry -/
theorem whole_eq (G : Bytes → List Bool) (F : FieldDec) (message : Bytes) (cfg : Rt.SDict Rt.BitCfg)
    (enc : Bytes → Outcome Text) (hex : Bool) :
    Src._iso8583_to_dict G F message cfg enc hex =
      Outcome.bind (header enc hex message) (fun h =>
        Src._iso8583_to_dict_loop G F message h.2.2 h.2.1 cfg enc [([77, 84, 73], Rt.PyVal.str h.1)]) := by
  -- the same statements: `header` groups those before the loop; with its `bind`s re-associated the two sides agree by
  -- computation (`return_values['MTI']`, just assigned, is read back at once)
  cases hex <;> simp only [header, Outcome.bind_assoc] <;> rfl

/-- C08 for the WHOLE decoder as translated: it returns `d` exactly when the header statements succeed and the elements
    flagged in the bitmap they give tile the message data, `d` being the MTI entry updated with the elements' entries -/
theorem C08_source_whole (G : Bytes → List Bool) (F : FieldDec) (message : Bytes) (cfg : Rt.SDict Rt.BitCfg)
    (enc : Bytes → Outcome Text) (hex : Bool) (d : Rt.SDict Rt.PyVal) (hG : ∀ bm, (G bm).length = 129) :
    Src._iso8583_to_dict G F message cfg enc hex = .ok d ↔
      ∃ mti bm data, header enc hex message = .ok (mti, bm, data) ∧
        Tiles F cfg enc data (flagged (G bm) (Rt.range 2 129)) 0 [([77, 84, 73], Rt.PyVal.str mti)] (Rt.len data) d := by
  simp only [whole_eq, Outcome.bind_eq_ok, Prod.exists, C08_source_loop_tiles G F message _ _ cfg enc _ d (hG _)]

/-- a message shorter than its header (20 bytes with a binary bitmap, 36 with a hexadecimal one) is the library's data
    error, whatever follows -/
theorem C08_source_short_refused (G : Bytes → List Bool) (F : FieldDec) (message : Bytes) (cfg : Rt.SDict Rt.BitCfg)
    (enc : Bytes → Outcome Text) (hex : Bool) (h : message.length < (if hex then 36 else 20)) :
    Src._iso8583_to_dict G F message cfg enc hex = .dataError := by
  rw [whole_eq, header]
  cases hex <;> simp only [Bool.false_eq_true, if_true, if_false] at h ⊢
  · rw [unpack3_short 4 16 message (Rt.len message - 20) rfl h]; rfl
  · rw [unpack3_short 4 32 message (Rt.len message - 36) rfl h]; rfl

end Cardutil.SrcTie
