import Cardutil.SrcTie.RtLoops
import Cardutil.Gen.Src
import Cardutil.Model.Iso8583
import Cardutil.Props.C02
import Cardutil.Props.C07
/-
  Source tie for the element layout (C02): the translated `iso8583._get_field_length` and `_field_to_iso8583` —
  with `_pytype_to_string` and the text encoding as PARAMETERS (any functions of their types) — are the model's
  prefix width and the part of `Iso.encodeField` that follows the typed conversion.  On the decoder's side the framing
  statements of `_iso8583_to_field` are the model's `fieldLength` (C08), `_string_to_pytype` its typed conversion (C07).
-/
namespace Cardutil.SrcTie

open Cardutil Cardutil.Py Cardutil.Iso

/-- 'FIXED', 'LLVAR', 'LLLVAR' -/
def ftypeText : FType → Text
  | .fixed => [70, 73, 88, 69, 68]
  | .llvar => [76, 76, 86, 65, 82]
  | .lllvar => [76, 76, 76, 86, 65, 82]

/-- the configuration entry as the translated code sees it -/
def toRt (f : FieldCfg) : Rt.BitCfg := { field_type := ftypeText f.ftype, field_length := (f.length : Int) }

/-- '' (no typed conversion), 'int', 'decimal', 'datetime' -/
def pytypeText : PyType → Text
  | .str => []
  | .int => [105, 110, 116]
  | .decimal => [100, 101, 99, 105, 109, 97, 108]
  | .datetime => [100, 97, 116, 101, 116, 105, 109, 101]

/-- '%y', '%Y', '%m', '%d', '%H', '%M', '%S'; a literal character stands for itself -/
def dirText : Directive → Text
  | .y => [37, 121] | .Y => [37, 89] | .m => [37, 109] | .d => [37, 100]
  | .H => [37, 72] | .M => [37, 77] | .S => [37, 83]
  | .lit c => [c]

def fmtText (ds : List Directive) : Text := ds.flatMap dirText

/-- the configuration entry with its type and date format, as the translated `_string_to_pytype` sees it -/
def toRtTyped (f : FieldCfg) : Rt.BitCfg :=
  { field_type := ftypeText f.ftype, field_length := (f.length : Int),
    field_python_type := pytypeText f.pytype, field_date_format := some (fmtText f.dateFmt) }

/-- translated values as the model's `Val`: a text or bytes (`Rt.SB`), a decoded value (`Rt.PyVal`) -/
def ofSB : Rt.SB → Val
  | .str t => .str t
  | .bytes b => .bytes b

def valOfPy : Rt.PyVal → Val
  | .str t => .str t
  | .int i => .int i
  | .dec d => .dec d
  | .dt d => .dt d
  | .bytes b => .bytes b

/-- no literal '%' in the format (a '%' starts a directive) -/
def NoPercent (ds : List Directive) : Prop := ∀ c, Directive.lit c ∈ ds → c ≠ 37

/-- the codec's decoder as the translated code calls it: `bytes.decode(encoding)`, UnicodeDecodeError when a byte has
    no character -/
def decoderOf (env : Env) : Bytes → Outcome Text := fun b =>
  match env.codec.decode b with
  | some t => .ok t
  | none => .escape .unicodeError

/-- what `Iso.encodeField` does with the result of the typed conversion -/
def encodeTail (env : Env) (f : FieldCfg) (s : Val) : Outcome Bytes :=
  match s with
  | .str t =>
    if f.prefixLen = 0 then encodeText env (fitLeft f.length t)
    else if 10 ^ f.prefixLen ≤ t.length then .dataError
    else
      (encodeText env (fmtInt f.prefixLen (Int.ofNat t.length))).bind (fun p =>
        (encodeText env t).bind (fun body => .ok (p ++ body)))
  | .bytes b =>
    if f.prefixLen = 0 then .ok (b.take f.length)
    else if 10 ^ f.prefixLen ≤ b.length then .dataError
    else (encodeText env (fmtInt f.prefixLen (Int.ofNat b.length))).bind (fun p => .ok (p ++ b))
  | _ => .escape .typeError

theorem encodeField_tail (env : Env) (f : FieldCfg) (v : Val) :
    encodeField env f v = (pyTypeToString env f v).bind (encodeTail env f) := by
  unfold encodeField
  congr 1

theorem get_field_length_eq (f : FieldCfg) : Src._get_field_length (toRt f) = (f.prefixLen : Int) := by
  unfold Src._get_field_length toRt FieldCfg.prefixLen
  cases f.ftype <;> rfl

theorem toRt_field_length (f : FieldCfg) : (toRt f).field_length = (f.length : Int) := rfl

theorem fmtLeft_take (L : Nat) (t : Text) : Rt.fmtLeft (L : Int) (t.take L) = fitLeft L t := by
  simp [Rt.fmtLeft, fitLeft]

theorem fmtLeft_length (t : Text) : Rt.fmtLeft (t.length : Int) t = t := by simp [Rt.fmtLeft]

/-- `_field_to_iso8583` after the typed conversion `ext`, for any conversion function -/
theorem field_to_iso_eq (env : Env) (f : FieldCfg) (ext : Rt.SB → Rt.BitCfg → Outcome Rt.SB) (x : Rt.SB) :
    Src._field_to_iso8583 ext (toRt f) x (encodeText env) =
      Outcome.bind (ext x (toRt f)) (fun s => encodeTail env f (ofSB s)) := by
  unfold Src._field_to_iso8583
  dsimp only
  refine congrArg _ (funext fun s => ?_)
  -- text or bytes: fixed or variable, countable by the prefix or not, both sides branch on the same tests (`natCast_pos`,
  -- `natCast_ge_ten_pow` bring the translated ones to the model's, `ite_not` to its order) and end in the same expression
  rcases s with v | v <;>
    simp only [get_field_length_eq, toRt_field_length, Rt.sbLen, Int.toNat_natCast, natCast_pos, natCast_ge_ten_pow, ofSB,
      encodeTail, decide_eq_true_eq, ne_eq, ite_not, slice_to_nat, fmtLeft_take, fmtLeft_length, List.take_length,
      List.nil_append, bind_ok_right] <;> rfl

/-- without a typed conversion (`_pytype_to_string` returns its argument) the translated function is `encodeField` -/
theorem field_untyped_eq (env : Env) (f : FieldCfg) (x : Rt.SB) (hty : f.pytype = .str) :
    Src._field_to_iso8583 (fun v _ => .ok v) (toRt f) x (encodeText env) = encodeField env f (ofSB x) := by
  rw [field_to_iso_eq, encodeField_tail]
  simp only [pyTypeToString, hty]
  rfl

/-- C02(a) for the translated `_field_to_iso8583`: whenever it returns for a text value, or for a bytes value in a
    variable-length element, the bytes are the documented rendering -/
theorem C02_source_element_layout (env : Env) (f : FieldCfg) (x : Rt.SB) (bs : Bytes) (hty : f.pytype = .str)
    (hx : (∃ t, x = .str t) ∨ (∃ b, x = .bytes b ∧ 0 < f.prefixLen))
    (h : Src._field_to_iso8583 (fun v _ => .ok v) (toRt f) x (encodeText env) = .ok bs) :
    Props.C02.Rendered env f (ofSB x) bs := by
  rw [field_untyped_eq env f x hty] at h
  apply Props.C02.C02_element_layout env f (ofSB x) bs h (Or.inl hty)
  rcases hx with ⟨t, rfl⟩ | ⟨b, rfl, hp⟩
  · exact Or.inl ⟨t, rfl⟩
  · exact Or.inr (Or.inl ⟨b, rfl, hp⟩)

/-- C02(c) for the TRANSLATED function, whatever the typed conversion is: a value (text or bytes) longer than the
    2- or 3-digit prefix can count is refused with the library's data error, never emitted -/
theorem C02_source_refuses_overlong (env : Env) (f : FieldCfg) (ext : Rt.SB → Rt.BitCfg → Outcome Rt.SB)
    (x s : Rt.SB) (hext : ext x (toRt f) = .ok s) (hp : 0 < f.prefixLen)
    (hlen : (10 : Int) ^ f.prefixLen ≤ Rt.sbLen s) :
    Src._field_to_iso8583 ext (toRt f) x (encodeText env) = .dataError := by
  rw [field_to_iso_eq, hext, bind_ok_eq]
  have hne : ¬ (f.prefixLen = 0) := Nat.pos_iff_ne_zero.mp hp
  have key : ∀ n : Nat, (10 : Int) ^ f.prefixLen ≤ n → 10 ^ f.prefixLen ≤ n := fun n h => by exact_mod_cast h
  rcases s with v | v <;> simp only [ofSB, encodeTail, hne, if_false, if_pos (key _ hlen)]

/-- the first statements of `_iso8583_to_field` (up to `field_processor = …`).  `hk`: the translated code calls `int()`
    with the character classes measured from the interpreter (`Gen.intClasses`), the model with its environment's. -/
theorem field_frame_eq (env : Env) (f : FieldCfg) (data : Bytes) (hk : env.classes = Gen.intClasses) :
    Src._iso8583_to_field_frame (toRt f) data (decoderOf env) =
      Outcome.bind (fieldLength env f data) (fun flen =>
        .ok ((data.drop f.prefixLen).take flen, ((flen + f.prefixLen : Nat) : Int))) := by
  unfold Src._iso8583_to_field_frame
  -- both sides test for a prefix (`natCast_pos`, `ite_not` bring the translated test to the model's); without one the
  -- element is `message_data[length_size : length_size + field_length]` on both sides, whatever `length_size` is
  simp only [get_field_length_eq, toRt_field_length, natCast_pos, slice_to_nat, fieldLength, Outcome.ite_bind, bind_ok_eq,
    decide_eq_true_eq, ne_eq, ite_not,
    slice_eq (f.prefixLen : Int) ((f.prefixLen : Int) + (f.length : Int)) f.prefixLen f.length rfl rfl,
    decoderOf, Rt.intOfStr, ← hk, Int.natCast_add]
  refine ite_congr rfl (fun _ => rfl) (fun _ => ?_)
  cases env.codec.decode (data.take f.prefixLen) with
  | none => rfl
  | some t =>
    simp only [Rt.catchData, bind_ok_eq]
    cases pyInt env.classes t with
    | none => rfl
    | some i =>
      cases i with
      | negSucc n => rw [bind_ok_eq, if_pos (by simp [Int.negSucc_lt_zero])]; rfl
      | ofNat n => rw [bind_ok_eq, if_neg (by simp), Int.ofNat_eq_natCast, slice_eq _ _ f.prefixLen n rfl rfl, bind_ok_eq]

/-- C08 (framing) for the translated code: whenever the framing statements return, the element's bytes are the declared
    number of bytes right after the prefix and the message pointer moves forward by that number plus the prefix width -/
theorem C08_source_frame (env : Env) (f : FieldCfg) (data raw : Bytes) (inc : Int) (hk : env.classes = Gen.intClasses)
    (h : Src._iso8583_to_field_frame (toRt f) data (decoderOf env) = .ok (raw, inc)) :
    ∃ n : Nat, fieldLength env f data = .ok n ∧ raw = (data.drop f.prefixLen).take n ∧
      inc = ((n + f.prefixLen : Nat) : Int) ∧ raw.length ≤ n := by
  rw [field_frame_eq env f data hk, Outcome.bind_eq_ok] at h
  obtain ⟨n, hf, h⟩ := h
  cases h
  exact ⟨n, hf, rfl, rfl, by rw [List.length_take]; omega⟩

/-- … and a length prefix that `int()` reads as a negative number (b'-2', b'-07') is refused with the library's data
    error -/
theorem C08_source_negative_refused (env : Env) (f : FieldCfg) (data : Bytes) (t : Text) (n : Nat)
    (hk : env.classes = Gen.intClasses) (hp : 0 < f.prefixLen)
    (hd : env.codec.decode (data.take f.prefixLen) = some t) (hi : pyInt env.classes t = some (Int.negSucc n)) :
    Src._iso8583_to_field_frame (toRt f) data (decoderOf env) = .dataError := by
  rw [field_frame_eq env f data hk]
  have h0 : ¬ (f.prefixLen = 0) := by omega
  simp only [fieldLength, h0, if_false, hd, hi]
  rfl

theorem parseFormat_cons_lit (c : Nat) (rest : Text) (hc : c ≠ 37) :
    Rt.parseFormat (c :: rest) = (Rt.parseFormat rest).map (Directive.lit c :: ·) := by
  rw [Rt.parseFormat]
  exact fun _ _ h _ => hc h

/-- the format parser reads a rendered directive back, whatever follows (a literal '%' would start a directive) -/
theorem parseFormat_dirText (D : Directive) (rest : Text) (hD : ∀ c, D = .lit c → c ≠ 37) :
    Rt.parseFormat (dirText D ++ rest) = (Rt.parseFormat rest).map (D :: ·) := by
  cases D with
  | lit c => exact parseFormat_cons_lit c rest (hD c rfl)
  | _ => rfl

theorem parseFormat_fmtText : ∀ (ds : List Directive), NoPercent ds → Rt.parseFormat (fmtText ds) = some ds := by
  intro ds
  induction ds with
  | nil => intro _; rfl
  | cons D ds ih =>
    intro h
    rw [fmtText, List.flatMap_cons, parseFormat_dirText D _ (fun c e => h c (e ▸ List.mem_cons_self)), ← fmtText,
      ih fun c hc => h c (List.mem_cons_of_mem _ hc)]
    rfl

/-- `_string_to_pytype`: the translation is the model's typed conversion (values rendered into the model's `Val`) -/
theorem string_to_pytype_eq (env : Env) (f : FieldCfg) (t : Text) (hk : env.classes = Gen.intClasses)
    (hfmt : NoPercent f.dateFmt) :
    Outcome.bind (Src._string_to_pytype t (toRtTyped f)) (fun v => .ok (valOfPy v)) = stringToPyType env f t := by
  obtain ⟨ft, len, proc, pyt, dfmt⟩ := f
  unfold Src._string_to_pytype stringToPyType Rt.intOfStr Rt.decimalOfStr Rt.strptimeText
  cases pyt <;>
    simp +decide only [toRtTyped, pytypeText, Option.getD_some, parseFormat_fmtText dfmt hfmt, ← hk, ↓reduceIte]
  · rfl
  · cases pyInt env.classes t <;> rfl
  · cases pyDecimal env.classes t <;> rfl
  · cases strptime env.classes dfmt t <;> rfl

/-- C07 for the translated typed conversion under the caller's handler (`except (ValueError, decimal.InvalidOperation)`
    → the library error): it gives a value or the library's data error, nothing else escapes and nothing diverges -/
theorem C07_source_typed_conversion (env : Env) (f : FieldCfg) (t : Text) (hk : env.classes = Gen.intClasses)
    (hfmt : NoPercent f.dateFmt) :
    (∃ v, (Outcome.bind (Src._string_to_pytype t (toRtTyped f)) (fun v => .ok (valOfPy v))).catchAs isConvError = .ok v) ∨
      (Outcome.bind (Src._string_to_pytype t (toRtTyped f)) (fun v => .ok (valOfPy v))).catchAs isConvError = .dataError := by
  rw [string_to_pytype_eq env f t hk hfmt]
  exact Props.C07.C07_typed_conversion env f t

end Cardutil.SrcTie
