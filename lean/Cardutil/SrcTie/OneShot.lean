import Cardutil.SrcTie.Block
import Cardutil.Props.C04
import Cardutil.Props.C05
/-
  Source tie for the one-shot functions `mciipm.block_1014` and `mciipm.unblock_1014` (C04, C05): plain functions over
  an input and an output file object, translated with the input's content still to be read and the output's content
  written so far as explicit values.  The translated loops ARE the model's `blockify 1012` and `unblock 1012`.
-/
namespace Cardutil.SrcTie

open Cardutil Cardutil.Py Cardutil.Block

theorem take_isEmpty {P : Nat} (hP : 0 < P) (x : Nat) (xs : Bytes) : ((x :: xs).take P).isEmpty = false := by
  cases P with
  | zero => omega
  | succ n => rfl

/-- the loop of `block_1014`, whatever the text of its body: `hbody` says what one round does -/
theorem block_loop {P : Nat} (hP : 0 < P) {body : Bytes × Bytes → Outcome (Bool × (Bytes × Bytes))}
    (hbody : ∀ d out, body (d, out) =
      if d = [] then .ok (false, ([], out)) else .ok (true, (d.drop P, out ++ mkBlock P (d.take P)))) :
    ∀ (fuel : Nat) (d out : Bytes), d.length < fuel →
      (Rt.whileO fuel (fun _ => true) body (d, out)).bind (fun st => .ok st.2) = .ok (out ++ blockify P d) := by
  intro fuel
  induction fuel with
  | zero => intro d out h; omega
  | succ fuel ih =>
    intro d out hf
    rw [Rt.whileO, if_pos rfl, hbody]
    cases d with
    | nil => rw [if_pos rfl, blockify_short (Nat.zero_le P), if_pos rfl, List.append_nil]; rfl
    | cons x xs =>
      rw [if_neg (List.cons_ne_nil x xs), bind_ok_eq, if_pos rfl,
        ih _ _ (length_drop_lt hf hP (Nat.succ_pos _)), blockify_cons hP, List.append_assoc]

theorem block_1014_eq (fuel : Nat) (d : Bytes) (hf : d.length < fuel) :
    Src.block_1014 fuel d [] = .ok (blockify 1012 d) := by
  refine block_loop (P := 1012) (by decide) (fun d out => ?_) fuel d [] hf
  -- the generated text has the literal block size; from here on it is a variable
  have hP : 0 < 1012 := by decide
  rw [show (1012 : Int) = ((1012 : Nat) : Int) from rfl]
  generalize 1012 = P at hP ⊢
  -- in this order: `pp_eq` before `mulSeq_single` would take the trailer apart, `len_bne` before `Rt.len` is unfolded
  simp only [pp_eq]
  simp only [slice_to_nat, slice_from_nat, mulSeq_single, len_bne]
  simp only [Rt.len]
  cases d with
  | nil => simp only [List.take_nil, List.drop_nil, List.isEmpty_nil, Bool.not_true, Bool.not_false, if_true]
  | cons x xs =>
    simp only [take_isEmpty hP, reduceCtorEq, Bool.not_false, Bool.not_true, Bool.false_eq_true, if_false, mkBlock]
    by_cases hlen : ((x :: xs).take P).length = P
    · simp only [hlen, ne_eq, not_true_eq_false, decide_false, Bool.false_eq_true, if_false, Nat.sub_self,
        List.replicate_zero, List.append_nil]
    · simp only [hlen, ne_eq, not_false_eq_true, decide_true, if_true]
      rw [Int.toNat_sub]
      rfl

/-- the loop of `unblock_1014`; `none` is the library's data error -/
theorem unblock_loop {P : Nat} {body : Bytes × Bytes → Outcome (Bool × (Bytes × Bytes))}
    (hbody : ∀ f out, body (f, out) =
      if f = [] then .ok (false, ([], out))
      else if f.length < P + 2 then .dataError
      else if ((f.drop P).take 2 != PP) = true then .dataError
      else .ok (true, (f.drop (P + 2), out ++ f.take P))) :
    ∀ (fuel : Nat) (f out : Bytes), f.length < fuel →
      (Rt.whileO fuel (fun _ => true) body (f, out)).bind (fun st => .ok st.2) =
        (match unblock P f with
         | some p => .ok (out ++ p)
         | none => .dataError) := by
  intro fuel
  induction fuel with
  | zero => intro f out h; omega
  | succ fuel ih =>
    intro f out hf
    rw [Rt.whileO, if_pos rfl, hbody, unblock]
    cases f with
    | nil => rw [if_pos rfl, if_pos List.length_nil]; exact congrArg Outcome.ok (List.append_nil out).symm
    | cons x xs =>
      rw [if_neg (List.cons_ne_nil x xs), List.length_cons, if_neg (Nat.add_one_ne_zero _)]
      by_cases hlt : xs.length + 1 < P + 2
      · rw [if_pos hlt, if_pos hlt]; rfl
      · rw [if_neg hlt, if_neg hlt]
        cases hp : ((x :: xs).drop P).take 2 != PP with
        | true => rw [if_pos rfl, if_pos rfl]; rfl
        | false =>
          rw [if_neg Bool.false_ne_true, if_neg Bool.false_ne_true, bind_ok_eq, if_pos rfl,
            ih _ _ (length_drop_lt hf (Nat.succ_pos _) (Nat.succ_pos _))]
          cases unblock P ((x :: xs).drop (P + 2)) with
          | none => rfl
          | some p => simp only [Option.map_some, List.append_assoc]

theorem unblock_1014_eq (fuel : Nat) (f : Bytes) (hf : f.length < fuel) :
    Src.unblock_1014 fuel f [] = (match unblock 1012 f with
      | some p => .ok p
      | none => .dataError) := by
  refine (unblock_loop (P := 1012) (fun f out => ?_) fuel f [] hf).trans (by cases unblock 1012 f <;> rfl)
  rw [show (1014 : Int) = ((1012 + 2 : Nat) : Int) from rfl, show (1012 : Int) = ((1012 : Nat) : Int) from rfl,
    show (0 : Int) = ((0 : Nat) : Int) from rfl]
  generalize 1012 = P
  simp only [pp_eq, slice_to_nat, slice_from_nat, slice_nat, len_bne, List.drop_zero, Nat.sub_zero, List.take_take]
  cases f with
  | nil => rfl
  | cons x xs =>
    simp only [take_isEmpty (Nat.succ_pos (P + 1)), reduceCtorEq, Bool.not_false, Bool.not_true, Bool.false_eq_true,
      if_false]
    by_cases hlt : (x :: xs).length < P + 2
    · have : ((x :: xs).take (P + 2)).length ≠ P + 2 := Nat.ne_of_lt (Nat.lt_of_le_of_lt (List.length_take_le' ..) hlt)
      rw [if_pos (decide_eq_true this), if_pos hlt]
    · have htl : ((x :: xs).take (P + 2)).length = P + 2 := List.length_take_of_le (Nat.le_of_not_lt hlt)
      rw [if_neg (mt of_decide_eq_true (not_not_intro htl)), if_neg hlt, slice_from_neg _ _ (by decide), htl,
        List.drop_take, Nat.min_eq_left (Nat.le_add_right P 2), show (-(-(2 : Int))).toNat = 2 from rfl,
        Nat.add_sub_cancel, Nat.add_sub_cancel_left]

/-- C05(c) for the functions as translated: the translated unblocker applied to the output of the translated blocker
    returns the data followed by fewer than 1012 fill bytes -/
theorem C05_source_oneshot_inverse (fuel : Nat) (d : Bytes) (hf : (blockify 1012 d).length < fuel) (hd : d.length < fuel) :
    ∃ blocked k, Src.block_1014 fuel d [] = .ok blocked ∧ k < 1012 ∧
      Src.unblock_1014 fuel blocked [] = .ok (d ++ List.replicate k padByte) := by
  obtain ⟨k, hk, hu⟩ := Props.C05.C05_unblock_block d
  refine ⟨blockify 1012 d, k, block_1014_eq fuel d hd, hk, ?_⟩
  rw [unblock_1014_eq fuel _ hf, hu]

/-- … and C05(c), refusal: an input the model's `wellBlocked` rejects (not a whole number of blocks, or a wrong
    trailer) is refused by the translated unblocker with the library's data error -/
theorem C05_source_oneshot_refuses (fuel : Nat) (f : Bytes) (hf : f.length < fuel) (hw : wellBlocked 1012 f = false) :
    Src.unblock_1014 fuel f [] = .dataError := by
  rw [unblock_1014_eq fuel f hf, Props.C05.C05_unblock_iff, hw]
  rfl

/-- C04 for the one-shot blocker as translated: whole blocks with trailers, the data followed by fill -/
theorem C04_source_oneshot (fuel : Nat) (d : Bytes) (hd : d.length < fuel) :
    ∃ out, Src.block_1014 fuel d [] = .ok out ∧ wellBlocked 1012 out = true ∧
      ∃ k, k < 1012 ∧ payloads 1012 out = d ++ List.replicate k padByte := by
  obtain ⟨hwb, k, hk, hp⟩ := Props.C04.C04_oneshot d
  exact ⟨blockify 1012 d, block_1014_eq fuel d hd, hwb, k, hk, hp⟩

end Cardutil.SrcTie
