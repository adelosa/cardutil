import Cardutil.SrcTie.Reader
/-
  Source tie for `mciipm.IpmReader.__next__` (C10): the base reader's method through `super()`, the message decoder
  as an EXTERNAL function of the record (any function to a dictionary or an exception), and the library error of the
  decoder re-raised with the record number remembered BEFORE the read and the raw record — length prefix included — as
  context.
-/
namespace Cardutil.SrcTie

open Cardutil Cardutil.Py Cardutil.Vbs

abbrev Loads := Bytes → Outcome (Rt.SDict Rt.PyVal)

/-- the translated method in terms of the model's framing step and the decoder's outcome; the last case is unreachable:
    `next` ends only in eof or dataError (`next_done`) -/
theorem ipm_next_eq (L : Loads) (recno : Nat) (last : Option Bytes) (src : Bytes) :
    Src.IpmReader_next L (recno : Int) (last.getD []) src =
      (match next plainSrc Gen.maxVbsRecordLength ⟨src, recno, last⟩ with
       | .record r st =>
         (match L r with
          | .ok d => .ok (.ret (d, ((st.recno : Int), (st.last.getD [], st.src))))
          | .dataError => .ok (.libError (recno : Int) (st.last.getD []))
          | .escape k => .escape k
          | .diverge => .diverge)
       | .done .eof => .ok .stop
       | .done (.dataError n ctx) => .ok (.libError (n : Int) ctx)
       | .done _ => .ok .stop) := by
  unfold Src.IpmReader_next
  rw [reader_next_eq recno last src, bind_ok_eq]
  cases hn : next plainSrc Gen.maxVbsRecordLength ⟨src, recno, last⟩ with
  | record r st =>
    simp only [stepSignal]
    cases L r <;> rfl
  | done e =>
    cases e <;> rfl

/-- C10 for the reader as translated: when the k-th record is framed (the base reader delivers it, its number being
    `recno`) and the decoder refuses it with the library's error, the error raised carries exactly that number and, as
    context, the raw record with its four-byte length prefix -/
theorem C10_source_message_fault (L : Loads) (recno : Nat) (last : Option Bytes) (src rec : Bytes) (st : RState Bytes)
    (hframe : next plainSrc Gen.maxVbsRecordLength ⟨src, recno, last⟩ = .record rec st) (hbad : L rec = .dataError) :
    Src.IpmReader_next L (recno : Int) (last.getD []) src =
      .ok (.libError (recno : Int) ((src.take 4) ++ rec)) := by
  rw [ipm_next_eq, hframe]
  simp only [hbad]
  -- the context: what the framing step recorded as last record = prefix ++ record
  obtain ⟨n, _, _, _, rfl, rfl⟩ := next_eq_record hframe
  rfl

/-- … and a framing-level fault of the base reader (a length above the maximum, a record cut short) passes through with
    the base reader's own number and context -/
theorem C10_source_framing_fault (L : Loads) (recno : Nat) (last : Option Bytes) (src : Bytes) (n : Nat) (ctx : Bytes)
    (h : next plainSrc Gen.maxVbsRecordLength ⟨src, recno, last⟩ = .done (.dataError n ctx)) :
    Src.IpmReader_next L (recno : Int) (last.getD []) src = .ok (.libError (n : Int) ctx) := by
  rw [ipm_next_eq, h]

/-- a record the decoder accepts is delivered, and the state moves on exactly as the base reader's -/
theorem C10_source_delivers (L : Loads) (recno : Nat) (last : Option Bytes) (src rec : Bytes) (st : RState Bytes)
    (d : Rt.SDict Rt.PyVal)
    (hframe : next plainSrc Gen.maxVbsRecordLength ⟨src, recno, last⟩ = .record rec st) (hok : L rec = .ok d) :
    Src.IpmReader_next L (recno : Int) (last.getD []) src =
      .ok (.ret (d, ((st.recno : Int), (st.last.getD [], st.src)))) := by
  rw [ipm_next_eq, hframe]
  simp only [hok]

/-- C07 for the readers as translated, over any bytes: the translated `VbsReader.__next__` always returns — a record,
    end of data, or the library's error; no other exception and no divergence, whatever the file holds -/
theorem C07_source_vbs_reader_total (recno : Nat) (last : Option Bytes) (src : Bytes) :
    ∃ sig, Src.VbsReader_next (recno : Int) (last.getD []) src = .ok sig :=
  ⟨_, reader_next_eq recno last src⟩

/-- … and so does the translated `IpmReader.__next__`, for any message decoder that itself ends in a dictionary or the
    library's data error (which is what C07 says of `loads`) -/
theorem C07_source_ipm_reader_total (L : Loads) (hL : ∀ r, (∃ d, L r = .ok d) ∨ L r = .dataError)
    (recno : Nat) (last : Option Bytes) (src : Bytes) :
    ∃ sig, Src.IpmReader_next L (recno : Int) (last.getD []) src = .ok sig := by
  rw [ipm_next_eq]
  cases hn : next plainSrc Gen.maxVbsRecordLength ⟨src, recno, last⟩ with
  | record r st =>
    rcases hL r with ⟨d, hd⟩ | hd
    · simp only [hd]; exact ⟨_, rfl⟩
    · simp only [hd]; exact ⟨_, rfl⟩
  | done e => cases e <;> exact ⟨_, rfl⟩

end Cardutil.SrcTie
