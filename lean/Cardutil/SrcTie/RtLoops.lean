import Cardutil.SrcTie.Base
/-
  Facts about the run-time library (`Py/Rt.lean`) shared by the source-tie modules: `len(x)` compared with a natural,
  indexing inside a list, the `for` loop (`Rt.forO`) and `range`.  A `while` loop (`Rt.whileO`) has no lemma here: each is
  tied to the model's recursive function by induction on the fuel where it occurs (`write_loop`, `refill_loop`,
  `block_loop`, `unblock_loop`, the two walkers of SrcTie/Pds.lean); `length_drop_lt` is the step of the fuel in those
  that consume a list.
-/
namespace Cardutil.SrcTie

open Cardutil Cardutil.Py

theorem len_lt {α} (l : List α) (n : Nat) : decide (Rt.len l < (n : Int)) = decide (l.length < n) := by
  simp only [Rt.len, Int.ofNat_lt]

theorem len_gt {α} (l : List α) (n : Nat) : decide (Rt.len l > (n : Int)) = decide (n < l.length) := by
  simp only [Rt.len, gt_iff_lt, Int.ofNat_lt]

theorem len_ge {α} (l : List α) (n : Nat) : decide (Rt.len l ≥ (n : Int)) = decide (n ≤ l.length) := by
  simp only [Rt.len, ge_iff_le, Int.ofNat_le]

theorem len_beq {α} (l : List α) (n : Nat) : (Rt.len l == (n : Int)) = decide (l.length = n) := by
  simp only [Rt.len, Bool.beq_eq_decide_eq, Int.natCast_inj]

theorem len_bne {α} (l : List α) (n : Nat) : (Rt.len l != (n : Int)) = decide (l.length ≠ n) := by
  simp only [Rt.len, bne, Bool.beq_eq_decide_eq, Int.natCast_inj, ne_eq, decide_not]

theorem ptr_lt_len {α} (l : List α) (p : Nat) : decide ((p : Int) < Rt.len l) = !(l.drop p).isEmpty := by
  rw [Bool.eq_iff_iff]; simp [Rt.len, Nat.not_le]

theorem natCast_lt_zero (n : Nat) : decide ((n : Int) < 0) = false := by
  simp only [decide_eq_false_iff_not, Int.not_lt, Int.natCast_nonneg]

theorem natCast_pos (n : Nat) : decide ((n : Int) > 0) = decide (n ≠ 0) := decide_eq_decide.mpr (by omega)

theorem natCast_ge_ten_pow (p n : Nat) : decide ((n : Int) ≥ (10 : Int) ^ p) = decide (10 ^ p ≤ n) :=
  decide_eq_decide.mpr (by rw [ge_iff_le]; exact_mod_cast Iff.rfl)

/-- the fuel of a `while` loop that consumes its input: a round that drops `n > 0` elements of a non-empty list leaves a
    list shorter than the fuel left -/
theorem length_drop_lt {α} {l : List α} {n fuel : Nat} (hf : l.length < fuel + 1) (hn : 0 < n) (hl : 0 < l.length) :
    (l.drop n).length < fuel := by
  rw [List.length_drop]
  exact Nat.lt_of_lt_of_le (Nat.sub_lt hl hn) (Nat.le_of_lt_succ hf)

theorem getItem_in {α} (l : List α) (i : Int) (h0 : 0 ≤ i) (h1 : i.toNat < l.length) :
    Rt.getItem l i = .ok (l[i.toNat]'h1) := by
  unfold Rt.getItem
  have : ¬ i < 0 := by omega
  simp only [this, if_false]
  rw [List.getElem?_eq_getElem h1]

theorem setItem_in {α} (l : List α) (i : Int) (v : α) (h0 : 0 ≤ i) (h1 : i.toNat < l.length) :
    Rt.setItem l i v = .ok (l.set i.toNat v) := by
  unfold Rt.setItem
  have : ¬ i < 0 := by omega
  simp only [this, if_false, h1, if_true]

/-- any function with `forO`'s two equations is `forO`; for an iteration written out as a recursive definition both hold
    by `rfl` -/
theorem eq_forO {α σ} (f : σ → α → Outcome σ) (it : σ → List α → Outcome σ) (h0 : ∀ st, it st [] = .ok st)
    (hc : ∀ st x xs, it st (x :: xs) = (f st x).bind (fun st' => it st' xs)) :
    ∀ (xs : List α) (st : σ), it st xs = Rt.forO f xs st := by
  intro xs
  induction xs with
  | nil => exact h0
  | cons x xs ih => intro st; rw [hc, Rt.forO]; exact congrArg _ (funext ih)

theorem forO_nil_eq_ok {α σ} {f : σ → α → Outcome σ} {s s' : σ} : Rt.forO f [] s = .ok s' ↔ s = s' := by
  simp [Rt.forO]

theorem forO_cons_eq_ok {α σ} {f : σ → α → Outcome σ} {x : α} {xs : List α} {s s' : σ} :
    Rt.forO f (x :: xs) s = .ok s' ↔ ∃ s₁, f s x = .ok s₁ ∧ Rt.forO f xs s₁ = .ok s' := Outcome.bind_eq_ok

theorem forO_append {α σ} (f : σ → α → Outcome σ) (xs ys : List α) (s : σ) :
    Rt.forO f (xs ++ ys) s = (Rt.forO f xs s).bind (Rt.forO f ys) := by
  induction xs generalizing s with
  | nil => rfl
  | cons x xs ih => rw [List.cons_append, Rt.forO, Rt.forO, Outcome.bind_assoc, funext ih]

theorem forO_eq_mapO_foldl {α β σ} {f : σ → α → Outcome σ} (g : α → Outcome β) (step : σ → β → σ)
    (h : ∀ s x, f s x = (g x).bind (fun e => .ok (step s e))) (xs : List α) (s : σ) :
    Rt.forO f xs s = (Outcome.mapO g xs).bind (fun es => .ok (es.foldl step s)) := by
  induction xs generalizing s with
  | nil => rfl
  | cons x xs ih =>
    simp only [Rt.forO, h, Outcome.mapO, Outcome.bind_assoc, bind_ok_eq, ih, List.foldl_cons]

theorem mem_rtRange {a b x : Int} : x ∈ Rt.range a b ↔ a ≤ x ∧ x < b := by
  simp only [Rt.range, List.mem_map, List.mem_range]
  exact ⟨fun ⟨i, hi, e⟩ => by omega, fun h => ⟨(x - a).toNat, by omega, by omega⟩⟩

theorem filterO_total {α} (p : α → Outcome Bool) (q : α → Bool) (l : List α) (h : ∀ x ∈ l, p x = .ok (q x)) :
    Rt.filterO p l = .ok (l.filter q) := by
  induction l with
  | nil => rfl
  | cons x xs ih =>
    rw [Rt.filterO, h x (by simp), bind_ok_eq, ih (fun y hy => h y (by simp [hy])), bind_ok_eq]
    cases hq : q x <;> simp [List.filter, hq]

theorem unpack3_short (p q : Nat) (data : Bytes) (n : Int) (hn : n = Rt.len data - (p + q : Nat)) (h : data.length < p + q) :
    Rt.unpack3 p q n data = .escape .structError := by
  unfold Rt.unpack3
  rw [if_pos (.inl (by unfold Rt.len at hn; omega))]

theorem unpack3_append (a b c : Bytes) (n : Int) (hn : n = Rt.len (a ++ b ++ c) - (a.length + b.length : Nat)) :
    Rt.unpack3 a.length b.length n (a ++ b ++ c) = .ok (a, b, c) := by
  unfold Rt.unpack3
  rw [Rt.len, List.length_append, List.length_append, Int.natCast_add, Int.add_comm, Int.add_sub_cancel] at hn
  rw [hn, List.length_append, List.length_append, Int.natCast_add, Int.natCast_add,
    if_neg (not_or.mpr ⟨Int.not_lt.mpr (Int.natCast_nonneg _), not_not_intro rfl⟩), List.append_assoc,
    List.take_left' rfl, List.drop_left' rfl, List.take_left' rfl, ← List.append_assoc, List.drop_left' (by simp)]

end Cardutil.SrcTie
