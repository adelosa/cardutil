import Cardutil.SrcTie.LoopRoundTrip
import Cardutil.SrcTie.Field
import Cardutil.Lemmas.IsoField
import Cardutil.Props.C01
import Cardutil.Lemmas.IsoSafe
/-
  Source tie for the WHOLE element decoder `iso8583._iso8583_to_field` (C01, C07, C16): framing, text decoding (not for
  the binary ICC element), the card-number processors, the typed conversion, and the derived entries (PDS sub-elements,
  the DE43 parts through an external function, ICC tags) — translated as one function.  For a TEXT element (no
  processor, no typed conversion) it is the framing statements followed by decoding the element's bytes, with the one
  entry 'DE<bit>'.
-/
namespace Cardutil.SrcTie

open Cardutil Cardutil.Py Cardutil.Iso

abbrev De43 := Text → Option Text → Outcome (Rt.SDict Text)

theorem string_to_pytype_untyped (t : Text) (cfg : Rt.BitCfg) (hpy : cfg.field_python_type = []) :
    Src._string_to_pytype t cfg = .ok (Rt.PyVal.str t) := by
  unfold Src._string_to_pytype
  simp +decide only [hpy, if_false]

/-- a TEXT element (no processor, no typed conversion): the whole element decoder is the framing statements, the
    decoding of the element's bytes under its handler, and the single entry 'DE<bit>' -/
theorem whole_text (fuel : Nat) (X : De43) (bit : Int) (cfg : Rt.BitCfg) (data : Bytes) (dec : Bytes → Outcome Text)
    (hproc : cfg.field_processor = []) (hpy : cfg.field_python_type = []) :
    Src._iso8583_to_field_whole fuel X bit cfg data dec =
      (Src._iso8583_to_field_frame cfg data dec).bind (fun fr =>
        (Rt.catchData [.unicodeError] (dec fr.1)).bind (fun t => .ok ([(deKey bit, Rt.PyVal.str t)], fr.2))) := by
  unfold Src._iso8583_to_field_whole Src._iso8583_to_field_frame
  -- the whole decoder repeats the framing statements; with no processor and no type every later test is decided
  -- (`↓reduceIte`: before its branches are visited), and what is left branches as the framing statements do (prefix or
  -- none, then the sign of the length): with the decoding moved into those branches (`ite_bind`) the two sides agree
  simp +decide only [hproc, ↓reduceIte, string_to_pytype_untyped _ cfg hpy, catch_ok, bind_ok_eq, Outcome.ite_bind,
    Outcome.bind_assoc]
  rfl

/-- a text value that fits its element: encodable, not empty, exactly the width of a fixed element, countable by the
    prefix of a variable one -/
structure FitsText (env : Env) (f : FieldCfg) (t : Text) (bs : Bytes) : Prop where
  untyped : f.pytype = .str
  enc : env.codec.encode t = some bs
  fixed : f.prefixLen = 0 → t.length = f.length
  var : 0 < f.prefixLen → t.length < 10 ^ f.prefixLen

theorem to_field_text_eq (env : Env) (hk : env.classes = Gen.intClasses) (fuel : Nat) (X : De43) (bit : Int) (f : FieldCfg)
    (data : Bytes) :
    Src._iso8583_to_field_whole fuel X bit (toRt f) data (decoderOf env) =
      (fieldLength env f data).bind (fun n =>
        (Rt.catchData [.unicodeError] (decoderOf env ((data.drop f.prefixLen).take n))).bind (fun t =>
          .ok ([(deKey bit, Rt.PyVal.str t)], ((n + f.prefixLen : Nat) : Int)))) := by
  rw [whole_text fuel X bit (toRt f) data (decoderOf env) rfl rfl, field_frame_eq env f data hk, Outcome.bind_assoc]
  rfl

/-- the translated element encoder and whole element decoder on a text element: the rendering of a value that fits is
    decoded back to it, whatever follows in the message, the pointer advancing by the rendering's length -/
theorem text_element_recovered (env : Env) (henv : EnvOK env) (hk : env.classes = Gen.intClasses)
    (fuel : Nat) (X : De43) (bit : Int) (f : FieldCfg) (t : Text) (bs : Bytes) (hfit : FitsText env f t bs) :
    ∃ r, Src._field_to_iso8583 (fun v _ => .ok v) (toRt f) (.str t) (encodeText env) = .ok r ∧
      ∀ rest : Bytes, Src._iso8583_to_field_whole fuel X bit (toRt f) (r ++ rest) (decoderOf env) =
        .ok ([(deKey bit, Rt.PyVal.str t)], (r.length : Int)) := by
  have hlen : bs.length = t.length := Codec.encode_length hfit.enc
  obtain ⟨r, hE, hl, hD⟩ := frame_spec henv (pyTypeToString_str env (.str t) hfit.untyped) (.str t bs hfit.enc)
    (hlen ▸ hfit.fixed) (hlen ▸ hfit.var)
  refine ⟨r, by rw [field_untyped_eq env f (.str t) hfit.untyped]; exact hE, fun rest => ?_⟩
  rw [to_field_text_eq env hk, (hD rest).1, bind_ok_eq, (hD rest).2, decoderOf, Codec.decode_encode henv.lawful hfit.enc, hl]
  rfl

/-- C07 for the whole element decoder as translated, on a text element and any bytes: it returns a value or raises the
    library's data error; nothing else escapes and nothing diverges -/
theorem C07_source_text_element_total (env : Env) (hk : env.classes = Gen.intClasses) (fuel : Nat) (X : De43) (bit : Int)
    (f : FieldCfg) (data : Bytes) :
    (∃ r, Src._iso8583_to_field_whole fuel X bit (toRt f) data (decoderOf env) = .ok r) ∨
      Src._iso8583_to_field_whole fuel X bit (toRt f) data (decoderOf env) = .dataError := by
  rw [to_field_text_eq env hk]
  rcases Outcome.safe_cases (Iso.fieldLength_safe env f data) with ⟨n, hn⟩ | hn
  · rw [hn, bind_ok_eq]
    unfold decoderOf
    cases env.codec.decode (List.take n (List.drop f.prefixLen data)) with
    | some t => exact .inl ⟨_, rfl⟩
    | none => exact .inr rfl
  · rw [hn]; exact .inr rfl

/-- the element encoder the loop calls, for text values: the TRANSLATED `_field_to_iso8583` (the loop fragment and the
    element encoder were translated with different renderings of "a value of any type"; this adapter joins them) -/
def textFieldEnc : FieldEnc := fun cfg v enc =>
  match v with
  | some (.str t) => Src._field_to_iso8583 (fun v _ => .ok v) cfg (.str t) enc
  | _ => .escape .typeError

/-- element `b` of the message is a text value that fits its configured element -/
def TextElem (env : Env) (message : Rt.SDict Rt.AnyVal) (cfg : Rt.SDict Rt.BitCfg) (b : Int) : Prop :=
  ∃ f t bs, Rt.dictGet cfg (Rt.strOfInt b) = .ok (toRt f) ∧ Rt.dictGetOpt message (deKey b) = some (.str t) ∧
    FitsText env f t bs

/-- what decoding is expected to return: for each listed element, its entry 'DE<b>' with the text given -/
def decodedOf (message : Rt.SDict Rt.AnyVal) : List Int → Rt.SDict Rt.PyVal → Rt.SDict Rt.PyVal
  | [], acc => acc
  | b :: bs, acc =>
    decodedOf message bs (match Rt.dictGetOpt message (deKey b) with
      | some (.str t) => Rt.dictUpdate acc [(deKey b, Rt.PyVal.str t)]
      | _ => acc)

theorem recovers_text (env : Env) (henv : EnvOK env) (hk : env.classes = Gen.intClasses) (fuel : Nat) (X : De43)
    (message : Rt.SDict Rt.AnyVal) (cfg : Rt.SDict Rt.BitCfg) :
    ∀ (bs : List Int) (acc : Rt.SDict Rt.PyVal), (∀ b ∈ bs, TextElem env message cfg b) →
      Recovers (Src._iso8583_to_field_whole fuel X) textFieldEnc message cfg (encodeText env) (decoderOf env)
        bs acc (decodedOf message bs acc) := by
  intro bs
  induction bs with
  | nil => intro acc _; exact Recovers.nil acc
  | cons b bs ih =>
    intro acc h
    obtain ⟨f, t, bytes, hcfg, hget, hfit⟩ := h b (by simp)
    obtain ⟨r, hE, hD⟩ := text_element_recovered env henv hk fuel X b f t bytes hfit
    have hstep : decodedOf message (b :: bs) acc =
        decodedOf message bs (Rt.dictUpdate acc [(deKey b, Rt.PyVal.str t)]) := by
      rw [decodedOf, hget]
    rw [hstep]
    refine Recovers.cons b bs acc (toRt f) r [(deKey b, Rt.PyVal.str t)] _ hcfg ?_ hD
      (ih _ (fun x hx => h x (by simp [hx])))
    show textFieldEnc (toRt f) (Rt.dictGetOpt message (deKey b)) (encodeText env) = .ok r
    rw [hget]
    exact hE

/-- C01 for the code as translated, end to end, for messages of text elements: through the translated encoder loop,
    `_field_to_iso8583`, `BitArray`, `_iso8583_to_dict` and whole element decoder every text value that fits its element
    comes back under its key, next to the MTI.  What remains as parameters: the codec tables (`EnvOK`) and the DE43
    helper, which a text element never reaches. -/
theorem C01_source_text_roundtrip (env : Env) (henv : EnvOK env) (hk : env.classes = Gen.intClasses) (fuel : Nat) (X : De43)
    (message : Rt.SDict Rt.AnyVal) (cfg : Rt.SDict Rt.BitCfg) (out mti : Bytes) (t : Text) (n : Int)
    (helems : ∀ b ∈ presentBits message, TextElem env message cfg b)
    (henc : Src._dict_to_iso8583_loop textFieldEnc message cfg (encodeText env) false = .ok out)
    (hmti : mtiOf message (encodeText env) = .ok mti) (h4 : mti.length = 4) (hd : decoderOf env mti = .ok t)
    (hn : Rt.pyvalInt Gen.intClasses (Rt.PyVal.str t) = .ok n) :
    Src._iso8583_to_dict bitmapReader (Src._iso8583_to_field_whole fuel X) out cfg (decoderOf env) false =
      .ok (decodedOf message (presentBits message) [([77, 84, 73], Rt.PyVal.str t)]) :=
  C01_source_whole_roundtrip_bits textFieldEnc (Src._iso8583_to_field_whole fuel X) message cfg (encodeText env)
    (decoderOf env) out mti t n _ henc hmti h4 hd hn
    (recovers_text env henv hk fuel X message cfg (presentBits message) _ helems)

/-- … at the three production codecs (latin-1, cp500, cp037, whose tables are re-measured from the interpreter on every
    run): no hypothesis about the environment is left -/
theorem C01_source_text_roundtrip_production (c : Codec) (hc : c = Gen.latin_1 ∨ c = Gen.cp500 ∨ c = Gen.cp037)
    (pd : Text → Option DateTime) (fuel : Nat) (X : De43)
    (message : Rt.SDict Rt.AnyVal) (cfg : Rt.SDict Rt.BitCfg) (out mti : Bytes) (t : Text) (n : Int)
    (helems : ∀ b ∈ presentBits message, TextElem (Props.C01.envOf c pd) message cfg b)
    (henc : Src._dict_to_iso8583_loop textFieldEnc message cfg (encodeText (Props.C01.envOf c pd)) false = .ok out)
    (hmti : mtiOf message (encodeText (Props.C01.envOf c pd)) = .ok mti) (h4 : mti.length = 4)
    (hd : decoderOf (Props.C01.envOf c pd) mti = .ok t)
    (hn : Rt.pyvalInt Gen.intClasses (Rt.PyVal.str t) = .ok n) :
    Src._iso8583_to_dict bitmapReader (Src._iso8583_to_field_whole fuel X) out cfg
        (decoderOf (Props.C01.envOf c pd)) false =
      .ok (decodedOf message (presentBits message) [([77, 84, 73], Rt.PyVal.str t)]) :=
  C01_source_text_roundtrip (Props.C01.envOf c pd) (Props.C01.envOK_production pd hc) rfl fuel X message cfg out mti t n
    helems henc hmti h4 hd hn

/-! ### the translated code run by the kernel on a concrete message (a test, labelled as one: two text elements) -/

def exEnv : Env := Props.C01.envOf Gen.latin_1 (fun _ => none)
def exCfg : Rt.SDict Rt.BitCfg :=
  [(Rt.lit "2", toRt { ftype := .llvar, length := 0, proc := .none, pytype := .str, dateFmt := [] }),
   (Rt.lit "3", toRt { ftype := .fixed, length := 6, proc := .none, pytype := .str, dateFmt := [] })]
def exMsg : Rt.SDict Rt.AnyVal :=
  [(Rt.lit "MTI", .str (Rt.lit "1144")), (Rt.lit "DE2", .str (Rt.lit "4444555566667777")), (Rt.lit "DE3", .str (Rt.lit "123456"))]

/-- the encoder's half of the test, evaluated once: the decoder's half below starts from its result.  The literals are
    turned into code points by `lit_ofList` first, so that the kernel does not run the UTF-8 decoder -/
theorem ex_encoded : Src._dict_to_iso8583_loop textFieldEnc exMsg exCfg (encodeText exEnv) false =
    .ok (Rt.lit "1144" ++ [224, 0, 0, 0, 0, 0, 0, 0, 0, 0, 0, 0, 0, 0, 0, 0] ++ Rt.lit "164444555566667777" ++ Rt.lit "123456") := by
  unfold exMsg exCfg
  iterate 9 rw [lit_ofList] -- one for each distinct literal
  decide +kernel

/-- MTI, bitmap x'E0 00 …' (bits 1, 2, 3), '16' + the card number, the processing code -/
example : Src._dict_to_iso8583_loop textFieldEnc exMsg exCfg (encodeText exEnv) false =
    .ok (Rt.lit "1144" ++ [224, 0, 0, 0, 0, 0, 0, 0, 0, 0, 0, 0, 0, 0, 0, 0] ++ Rt.lit "164444555566667777" ++ Rt.lit "123456") :=
  ex_encoded

/-- … and the translated decoder (whole element decoder, translated `BitArray`) reads it back -/
example : (Src._dict_to_iso8583_loop textFieldEnc exMsg exCfg (encodeText exEnv) false).bind (fun out =>
    (Src._iso8583_to_dict bitmapReader (Src._iso8583_to_field_whole 100 (fun _ _ => .ok [])) out exCfg (decoderOf exEnv) false).bind
      (fun d => .ok (d.map (fun kv => (kv.1, match kv.2 with | .str t => t | _ => []))))) =
    .ok [(Rt.lit "MTI", Rt.lit "1144"), (Rt.lit "DE2", Rt.lit "4444555566667777"), (Rt.lit "DE3", Rt.lit "123456")] := by
  rw [ex_encoded, bind_ok_eq]
  -- `format(v, '0128b')` is `toDigits 2 128`, which appends 128 times and is slow to evaluate: the kernel is given its closed
  -- form (everything else, the translated `BitArray.tolist` included, is evaluated as it stands)
  unfold exCfg bitmapReader Src.BitArray_tolist Rt.fmtBinW Pin.fmtBinW
  simp only [Digits.toDigits_eq_map_range]
  iterate 9 rw [lit_ofList] -- one for each distinct literal
  decide +kernel

end Cardutil.SrcTie
