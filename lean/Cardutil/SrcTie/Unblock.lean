import Cardutil.SrcTie.RtLoops
import Cardutil.Gen.Src
import Cardutil.Model.Vbs
import Cardutil.Props.C05
/-
  Source tie for `mciipm.Unblock1014.read` (C05).  `self` is made explicit as (`buffer`, the bytes
  of the wrapped file not yet read); `self.file_obj.read(1014)` takes the next 1014 of those.  The
  translated method IS the model's `Unblock.read`.
-/
namespace Cardutil.SrcTie

open Cardutil Cardutil.Py

/-- the size argument of `read` as the model takes it: `0` stands for `read()` without a size -/
def needOf (n : Nat) : Option Nat := if n = 0 then none else some n

/-- the refill loop of `Unblock1014.read`, whatever the text of its condition and body: `hc` and `hb` say what one round
    does -/
theorem refill_loop {P : Nat} {need : Option Nat} {c : Bytes × Bytes → Bool}
    {b : Bytes × Bytes → Outcome (Bool × (Bytes × Bytes))} (hc : ∀ rest buf, c (rest, buf) = Unblock.wants need buf)
    (hb : ∀ rest buf, b (rest, buf) =
      if rest = [] then .ok (false, ([], buf)) else .ok (true, (rest.drop (P + 2), buf ++ (rest.take (P + 2)).take P))) :
    ∀ (fuel : Nat) (rest buf : Bytes), rest.length < fuel →
      Rt.whileO fuel c b (rest, buf) = .ok (Unblock.refill P need rest buf) := by
  intro fuel
  induction fuel with
  | zero => intro rest buf h; omega
  | succ fuel ih =>
    intro rest buf hf
    rw [Rt.whileO, Unblock.refill, hc, hb]
    cases hw : Unblock.wants need buf with
    | false => rfl
    | true =>
      cases rest with
      | nil => rfl
      | cons x xs =>
        rw [if_pos rfl, if_neg (List.cons_ne_nil x xs), bind_ok_eq, if_pos rfl, List.length_cons,
          if_pos (And.intro rfl (Nat.add_one_ne_zero _))]
        exact ih _ _ (length_drop_lt hf (Nat.succ_pos _) (Nat.succ_pos _))

/-- `n = 0` is `read()` without a size -/
theorem unblock_read_eq (fuel : Nat) (buf rest : Bytes) (n : Nat) (hf : rest.length < fuel) :
    Src.Unblock1014_read fuel buf rest (n : Int) =
      .ok ((Unblock.read 1012 ⟨rest, buf⟩ (needOf n)).1,
           ((Unblock.read 1012 ⟨rest, buf⟩ (needOf n)).2.buf, (Unblock.read 1012 ⟨rest, buf⟩ (needOf n)).2.rest)) := by
  unfold Src.Unblock1014_read
  have read_all : (if (!((n : Int) != 0)) then true else false) = decide (n = 0) := by by_cases h : n = 0 <;> simp [h]
  simp only [read_all]
  rw [refill_loop (P := 1012) (need := needOf n) (fun rest buf => ?_) (fun rest buf => ?_) fuel rest buf hf]
  · unfold Unblock.read needOf
    by_cases h : n = 0 <;> simp [h, Outcome.bind, slice_to_nat, slice_from_nat]
  · unfold needOf Unblock.wants Rt.len
    by_cases h : n = 0 <;> simp [h]
  · -- the generated text has the literal block size; from here on it is a variable
    rw [show (1014 : Int) = ((1012 + 2 : Nat) : Int) from rfl, show (1012 : Int) = ((1012 : Nat) : Int) from rfl]
    generalize 1012 = P
    simp only [slice_to_nat, slice_from_nat]
    cases rest <;> rfl

/-- successive translated `read(n)` calls on one unblocker: the outputs in order -/
def srcReads (fuel : Nat) : Bytes × Bytes → List Nat → Outcome (List Bytes)
  | _, [] => .ok []
  | st, n :: ns =>
    (Src.Unblock1014_read fuel st.1 st.2 (n : Int)).bind (fun r =>
      (srcReads fuel r.2 ns).bind (fun outs => .ok (r.1 :: outs)))

theorem refill_rest_le (P : Nat) (need : Option Nat) (rest buf : Bytes) :
    (Unblock.refill P need rest buf).1.length ≤ rest.length :=
  (Unblock.refill_spec P need rest buf).2.2

theorem src_reads_eq (fuel : Nat) (ns : List Nat) : ∀ (buf rest : Bytes), rest.length < fuel →
    srcReads fuel (buf, rest) ns = .ok (Unblock.runReads 1012 ⟨rest, buf⟩ (ns.map needOf)) := by
  induction ns with
  | nil => intro buf rest _; rfl
  | cons n ns ih =>
    intro buf rest hf
    simp only [srcReads, List.map_cons, Unblock.runReads]
    rw [unblock_read_eq fuel buf rest n hf]
    simp only [Outcome.bind]
    have hle := Unblock.read_rest_le 1012 ⟨rest, buf⟩ (needOf n)
    rw [ih _ _ (Nat.lt_of_le_of_lt hle hf)]

/-- C05 for the code as translated: every history of translated `read` calls (sizes ≥ 0, `0` = no
    size) on a fresh unblocker over any file returns the successive slices of the payload stream -/
theorem C05_source (fuel : Nat) (file : Bytes) (ns : List Nat) (hf : file.length < fuel) :
    srcReads fuel ([], file) ns =
      .ok (Unblock.specReads (Block.payloads 1012 file) (ns.map needOf)) := by
  rw [src_reads_eq fuel ns [] file hf, Props.C05.C05_reads]

end Cardutil.SrcTie
