import Cardutil.SrcTie.Field
/-
  Source tie for `iso8583._pytype_to_string` (C02): the typed conversion on ENCODE — an int / Decimal / datetime (or
  their text) rendered as the text the element carries; `_get_date_from_string` (dateutil, or the library's fallback
  parser) is a parameter, as it is in the model (`env.parseDate`).
-/
namespace Cardutil.SrcTie

open Cardutil Cardutil.Py Cardutil.Iso

/-- a model value as the translated code sees it -/
def anyOfVal : Val → Rt.AnyVal
  | .str t => .str t
  | .int i => .int i
  | .bytes b => .bytes b
  | .dt d => .dt d
  | .dec d => .dec d

/-- the date parser handed to the translated function: the model's `parseDate` on text; other types are not dates -/
def dateExt (env : Env) : Rt.AnyVal → Outcome DateTime
  | .str t => (match env.parseDate t with
    | some d => .ok d
    | none => .escape .valueError)
  | _ => .escape .typeError

/-- the value kinds each configured type is documented to take (the model answers TypeError for the others; Python
    converts some of them — `int(Decimal)`, `int(bytes)` — which no caller of the library relies on) -/
def Compatible (f : FieldCfg) (v : Val) : Prop :=
  match f.pytype, v with
  | .str, _ => True
  | .int, .str _ => True
  | .int, .int _ => True
  | .decimal, .str _ => True
  | .decimal, .int _ => True
  | .decimal, .dec _ => True
  | .datetime, .dt _ => True
  | .datetime, .str _ => True
  | _, _ => False

theorem fmtText_isEmpty (ds : List Directive) (h : ds ≠ []) : (fmtText ds).isEmpty = false := by
  cases ds with
  | nil => exact absurd rfl h
  | cons D ds => cases D <;> simp [fmtText, dirText]

theorem formatDt_eq (d : DateTime) (ds : List Directive) (hne : ds ≠ []) (hnp : NoPercent ds) :
    Rt.formatDt d (fmtText ds) = .ok (strftime ds d) := by
  unfold Rt.formatDt
  rw [fmtText_isEmpty ds hne, parseFormat_fmtText ds hnp]
  rfl

/-- `_pytype_to_string` as translated is the model's `pyTypeToString` on the value kinds each type takes -/
theorem pytype_to_string_eq (env : Env) (f : FieldCfg) (v : Val) (hk : env.classes = Gen.intClasses)
    (hc : Compatible f v) (hne : f.pytype = .datetime → f.dateFmt ≠ []) (hnp : NoPercent f.dateFmt) :
    Src._pytype_to_string (dateExt env) (anyOfVal v) (toRtTyped f) =
      Outcome.bind (pyTypeToString env f v) (fun r => .ok (anyOfVal r)) := by
  obtain ⟨ft, len, proc, pyt, dfmt⟩ := f
  unfold Src._pytype_to_string pyTypeToString
  have hw : ¬ ((len : Int) < 0) := by omega
  have hfd := fun h d => formatDt_eq d dfmt (hne h) hnp
  -- the tests on the type's name are decided first (`↓reduceIte`: the branches not taken are never visited); without a type
  -- nothing is converted; the pairs that are not `Compatible` go by `hc`; in the others both sides come to the same
  -- function of what the parser (or the formatter of decimals) returns
  cases pyt <;> simp +decide only [toRtTyped, pytypeText, Option.getD_some, ↓reduceIte, Rt.fmtIntSpec, Rt.fmtDecSpec, hw, hfd,
    Int.toNat_natCast, ← hk]
  · rfl
  all_goals cases v <;> simp only [Compatible] at hc <;>
    dsimp only [anyOfVal, dateExt, Rt.anyInt, Rt.intOfStr, Rt.anyDecimal, Rt.decimalOfStr, bind_ok_eq]
  case int.str t => cases pyInt env.classes t <;> rfl
  case decimal.str t =>
    cases pyDecimal env.classes t
    · rfl
    · dsimp only [bind_ok_eq]; cases fmtDecF len _ <;> rfl
  case decimal.int i => cases fmtDecF len (decOfInt i) <;> rfl
  case decimal.dec d => cases fmtDecF len d <;> rfl
  case datetime.str t => cases env.parseDate t <;> rfl

/-- C02, numbers and dates, for the conversion as translated: an integer element is rendered zero-filled to exactly
    its width (the sign counted), whatever spelling of the number the caller gave -/
theorem C02_source_int_rendering (env : Env) (f : FieldCfg) (i : Int) (hk : env.classes = Gen.intClasses)
    (hp : f.pytype = .int) (hnp : NoPercent f.dateFmt) :
    Src._pytype_to_string (dateExt env) (.int i) (toRtTyped f) = .ok (.str (fmtInt f.length i)) := by
  refine (pytype_to_string_eq env f (.int i) hk (by unfold Compatible; rw [hp]; trivial) (by rw [hp]; intro h; cases h)
    hnp).trans ?_
  unfold pyTypeToString
  rw [hp]
  rfl

/-- … and a datetime element is the value formatted by the configured format -/
theorem C02_source_date_rendering (env : Env) (f : FieldCfg) (d : DateTime) (hk : env.classes = Gen.intClasses)
    (hp : f.pytype = .datetime) (hne : f.dateFmt ≠ []) (hnp : NoPercent f.dateFmt) :
    Src._pytype_to_string (dateExt env) (.dt d) (toRtTyped f) = .ok (.str (strftime f.dateFmt d)) := by
  refine (pytype_to_string_eq env f (.dt d) hk (by unfold Compatible; rw [hp]; trivial) (fun _ => hne) hnp).trans ?_
  unfold pyTypeToString
  rw [hp]
  rfl

end Cardutil.SrcTie
