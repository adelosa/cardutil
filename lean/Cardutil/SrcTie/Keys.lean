import Cardutil.SrcTie.Pin
import Cardutil.SrcTie.Misc
import Cardutil.Props.C14
import Cardutil.Lemmas.Des
import Cardutil.Lemmas.Aes
/-
  Source tie for the functions around the cipher library: `key.calculate_kcv`, `key.encrypt_key`,
  `key.get_zone_master_key`, `key.get_enc_zone_master_key`, `pinblock.calculate_pvv` (C14) and the static `encrypt` /
  `decrypt` of the two encryption mix-ins (C13).  The three statements of an ECB call into `cryptography` are one call of
  an external function `E key data` in the translation; the theorems are stated for ANY such function and then
  instantiated with the Triple DES and the AES of the model.
-/
namespace Cardutil.SrcTie

open Cardutil Cardutil.Py Cardutil.Digits

abbrev CipherFn := Bytes → Bytes → Outcome Bytes

theorem zeros16 : Rt.mulSeq [0] (16 : Int) = List.replicate 16 0 := by rw [mulSeq_single]; rfl

/-- `calculate_kcv`: the leading `n` hex digits of whatever the cipher returns for sixteen zero bytes -/
theorem calculate_kcv_eq (E : CipherFn) (key ct : Bytes) (n : Nat) (hE : E key (List.replicate 16 0) = .ok ct)
    (hb : IsBytes ct) :
    Src.calculate_kcv E key (n : Int) = .ok (((Pin.bytesToNibbles ct).map Pin.hexChar).take n) := by
  rw [Src.calculate_kcv, zeros16, hE, bind_ok_eq]
  simp only [hexlify_eq ct hb, slice_0_to _ _ (Int.natCast_nonneg n), Int.toNat_natCast]

theorem calculate_kcv_err (E : CipherFn) (key : Bytes) (n : Int) (k : ExcKind) (hE : E key (List.replicate 16 0) = .escape k) :
    Src.calculate_kcv E key n = .escape k := by
  unfold Src.calculate_kcv
  rw [zeros16, hE]
  rfl

/-- `encrypt_key`: both arguments read as hex, then the cipher -/
theorem encrypt_key_eq (E : CipherFn) (keyHex mkHex : Text) :
    Src.encrypt_key E keyHex mkHex =
      Outcome.bind (Pin.unhexlify mkHex) (fun mk => Outcome.bind (Pin.unhexlify keyHex) (fun k => E mk k)) := by
  unfold Src.encrypt_key Rt.unhexlify
  simp only [bind_ok_right]

/-- `get_zone_master_key`: the model's `combine`, then the check value of the combined key -/
theorem get_zone_master_key_eq (E : CipherFn) (parts : List Text) :
    Src.get_zone_master_key E parts =
      Outcome.bind (Pin.combine parts) (fun p1 =>
        Outcome.bind (Pin.unhexlify p1) (fun bk =>
          Outcome.bind (Src.calculate_kcv E bk 6) (fun kcv => .ok (p1, kcv)))) := by
  have hc := combine_eq parts
  unfold Src.get_zone_master_key_combine at hc
  unfold Src.get_zone_master_key
  simp only [bind_ok_right] at hc
  simp only [Rt.unhexlify]
  rw [hc]

/-- `get_enc_zone_master_key`: the combined key encrypted under the master key, with the clear key's check value -/
theorem get_enc_zone_master_key_eq (E : CipherFn) (mk : Text) (parts : List Text) :
    Src.get_enc_zone_master_key E mk parts =
      Outcome.bind (Src.get_zone_master_key E parts) (fun r =>
        Outcome.bind (Src.encrypt_key E r.1 mk) (fun enc => .ok (Rt.hexlify enc, r.2))) := rfl

/-- `calculate_pvv`: TSP, the cipher, the translated decimalisation -/
theorem calculate_pvv_unfold (E : CipherFn) (pin key : Text) (idx : Int) (pan : Text) :
    Src.calculate_pvv E pin key idx pan =
      Outcome.bind (Pin.unhexlify key) (fun k =>
        Outcome.bind (Pin.unhexlify (Pin.tsp pan (Rt.strOfInt idx) pin)) (fun blk =>
          Outcome.bind (E k blk) (fun ct => Src.calculate_pvv_decimalise ct))) := by
  unfold Src.calculate_pvv Src.calculate_pvv_decimalise Rt.unhexlify
  rw [get_tsp_eq]

/-- `calculate_pvv` as translated, for any cipher that returns bytes: the Visa PVV of the model -/
theorem calculate_pvv_eq (E : CipherFn) (pin key : Text) (idx : Int) (pan : Text) (k blk ct : Bytes)
    (hk : Pin.unhexlify key = .ok k) (hblk : Pin.unhexlify (Pin.tsp pan (Rt.strOfInt idx) pin) = .ok blk)
    (hE : E k blk = .ok ct) (hb : IsBytes ct) :
    Src.calculate_pvv E pin key idx pan = .ok (Pin.decimalise (Pin.bytesToNibbles ct)) := by
  rw [calculate_pvv_unfold, hk, bind_ok_eq, hblk, bind_ok_eq, hE, bind_ok_eq, decimalise_eq ct hb]

/-! ### with the Triple DES of the model as the cipher -/

/-- the external cipher function, instantiated: Triple DES ECB encryption of Model/Des.lean -/
def tdesE : CipherFn := fun key data => Des.tdesEcb false key data

/-- C14, key check value, for `calculate_kcv` as written with the model's Triple DES behind the cipher call: for every
    key of 8, 16 or 24 bytes the result is the leading `n` hex digits of the encryption of sixteen zero bytes -/
theorem C14_source_kcv (key : Bytes) (hk : key.length = 8 ∨ key.length = 16 ∨ key.length = 24) (n : Nat) :
    Src.calculate_kcv tdesE key (n : Int) = .ok (Pin.kcv (Des.tdesFn key) n) := by
  obtain ⟨hct, _, hb⟩ := Des.tdesFn_spec key (List.replicate 16 0) hk (by decide)
  rw [calculate_kcv_eq tdesE key _ n hct hb, Props.C14.C14_kcv]

/-- C14, PVV, for `calculate_pvv` as written with the model's Triple DES behind the cipher call: for every PVV key of
    8, 16 or 24 bytes (given as hex text), PIN of at least four digits, PAN of at least twelve digits and key index 0..9,
    the function returns exactly four decimal digits: the model's Visa PVV -/
theorem C14_source_pvv (keyHex : Text) (key : Bytes) (hkey : Pin.unhexlify keyHex = .ok key)
    (hk : key.length = 8 ∨ key.length = 16 ∨ key.length = 24)
    (pan pin : Text) (idx : Nat) (hidx : idx < 10) (hpan : Pin.AllDigits pan) (hpin : Pin.AllDigits pin)
    (hl : 12 ≤ pan.length) (hp : 4 ≤ pin.length) :
    ∃ v, Src.calculate_pvv tdesE pin keyHex (idx : Int) pan = .ok v ∧ v.length = 4 ∧ Pin.AllDigits v ∧
      Pin.pvv (Des.tdesFn key) pin (Rt.strOfInt (idx : Int)) pan = .ok v := by
  have hstr := strOfInt_digit idx hidx
  have hil : (Rt.strOfInt ((idx : Nat) : Int)).length = 1 := by rw [hstr]; rfl
  have hd : Pin.AllDigits (Rt.strOfInt ((idx : Nat) : Int)) := by
    rw [hstr]; intro c hc; obtain rfl := List.mem_singleton.mp hc
    exact ⟨Nat.le_add_right 48 idx, Nat.add_le_add_left (Nat.le_of_lt_succ hidx) 48⟩
  obtain ⟨v, hv, hvl, hvd⟩ := Props.C14.C14_pvv_tdes key hk pan (Rt.strOfInt (idx : Int)) pin hpan hd hpin hl hil hp
  refine ⟨v, ?_, hvl, hvd, hv⟩
  rw [Pin.pvv] at hv
  obtain ⟨blk, hblk, hv⟩ := Outcome.bind_eq_ok.mp hv
  obtain ⟨hct, _, hb⟩ := Des.tdesFn_spec key blk hk (by
    have h2 := (Pin.unhexlify_ok hblk).1
    rw [Props.C14.C14_tsp_length pan (Rt.strOfInt (idx : Int)) pin hl hil hp] at h2
    rw [(Nat.eq_of_mul_eq_mul_left Nat.two_pos h2 : blk.length = 8)])
  rw [calculate_pvv_eq tdesE pin keyHex (idx : Int) pan key blk _ hkey hblk hct hb]
  exact hv

/-- C14, zone master key, for `get_zone_master_key` as written with the model's Triple DES behind the cipher call:
    components of L = 32 or 48 hex digits give the L-digit text of their XOR (independent of their order; a component
    given twice cancels — `C14_combine_order`, `C14_combine_cancel`) together with the six leading hex digits of the
    encryption of zeros under that key -/
theorem C14_source_zone_master_key (L : Nat) (hL : L = 32 ∨ L = 48) (parts : List (List Nat))
    (h : ∀ p ∈ parts, p.length = L ∧ ∀ n ∈ p, n < 16) (hne : parts ≠ [] ∨ L = 32) :
    let clear := toDigits 16 L (Pin.combineVal (parts.map (fromDigits 16)))
    Src.get_zone_master_key tdesE (parts.map (·.map Pin.hexChar)) =
      .ok (clear.map Pin.hexChar, Pin.kcv (Des.tdesFn (Pin.nibblesToBytes clear)) 6) := by
  intro clear
  obtain ⟨n, rfl, hn⟩ : ∃ n, L = 2 * n ∧ (n = 16 ∨ n = 24) :=
    hL.elim (fun e => ⟨16, e, .inl rfl⟩) (fun e => ⟨24, e, .inr rfl⟩)
  have h32 : 32 ≤ 2 * n := by rcases hn with rfl | rfl <;> decide
  have hlt : ∀ n ∈ clear, n < 16 := toDigits_lt (by decide) _ _
  have hlen : clear.length = 2 * n := length_toDigits ..
  have hk : (Pin.nibblesToBytes clear).length = 8 ∨ (Pin.nibblesToBytes clear).length = 16 ∨
      (Pin.nibblesToBytes clear).length = 24 := by
    rw [Pin.nibblesToBytes_eq hlt hlen, length_toDigits]; exact .inr hn
  have hkcv : Src.calculate_kcv tdesE (Pin.nibblesToBytes clear) 6 = _ := C14_source_kcv _ hk 6
  rw [get_zone_master_key_eq, Props.C14.C14_combine_text_w (2 * n) h32 parts h hne, bind_ok_eq,
    Pin.unhexlify_of_parse (Pin.parseHexText_hexChars clear hlt) (hlen ▸ Nat.mul_mod_right 2 n), bind_ok_eq, hkcv,
    bind_ok_eq]

/-! ### the static `encrypt` / `decrypt` methods of the two encryption mix-ins (C13) -/

def tdesD : CipherFn := fun key data => Des.tdesEcb true key data

/-- AES-ECB of the model as the external cipher functions -/
def aesE : CipherFn := fun key data =>
  match Aes.ecbEncrypt key data with
  | some c => .ok c
  | none => .escape .valueError
def aesD : CipherFn := fun key data =>
  match Aes.ecbDecrypt key data with
  | some c => .ok c
  | none => .escape .valueError

theorem tdes_encrypt_eq (E : CipherFn) (keyHex : Text) (data : Bytes) :
    Src.Tdes_encrypt E keyHex data = Outcome.bind (Pin.unhexlify keyHex) (fun k => E k data) := by
  unfold Src.Tdes_encrypt Rt.unhexlify; simp only [bind_ok_right]
-- the other three static methods are the same text once translated
theorem tdes_decrypt_eq (D : CipherFn) (keyHex : Text) (data : Bytes) :
    Src.Tdes_decrypt D keyHex data = Outcome.bind (Pin.unhexlify keyHex) (fun k => D k data) := tdes_encrypt_eq D keyHex data
theorem aes_encrypt_eq (E : CipherFn) (keyHex : Text) (data : Bytes) :
    Src.Aes_encrypt E keyHex data = Outcome.bind (Pin.unhexlify keyHex) (fun k => E k data) := tdes_encrypt_eq E keyHex data
theorem aes_decrypt_eq (D : CipherFn) (keyHex : Text) (data : Bytes) :
    Src.Aes_decrypt D keyHex data = Outcome.bind (Pin.unhexlify keyHex) (fun k => D k data) := tdes_encrypt_eq D keyHex data

/-- C13, encrypted forms, for the Triple DES mix-in's static methods as written (the model's Triple DES behind the
    cipher calls): for every hex key of 8, 16 or 24 bytes and every byte string of whole 8-byte blocks, `encrypt` returns
    a ciphertext of the same length that `decrypt` under the same key turns back into the data -/
theorem C13_source_tdes_roundtrip (keyHex : Text) (key : Bytes) (hkey : Pin.unhexlify keyHex = .ok key)
    (hk : key.length = 8 ∨ key.length = 16 ∨ key.length = 24) (data : Bytes) (hd : data.length % 8 = 0)
    (hb : IsBytes data) :
    ∃ ct, Src.Tdes_encrypt tdesE keyHex data = .ok ct ∧ ct.length = data.length ∧
      Src.Tdes_decrypt tdesD keyHex ct = .ok data := by
  obtain ⟨ct, hct, hl, hdec⟩ := Des.tdesEcb_roundtrip key data hk hd hb
  exact ⟨ct, by rw [tdes_encrypt_eq, hkey, bind_ok_eq]; exact hct, hl, by rw [tdes_decrypt_eq, hkey, bind_ok_eq]; exact hdec⟩

/-- … and for the AES mix-in's static methods as written (the model's AES behind the cipher calls): for every hex key of
    16, 24 or 32 bytes and every 16-byte block (a format-4 PIN block is one) -/
theorem C13_source_aes_roundtrip (keyHex : Text) (key : Bytes) (hkey : Pin.unhexlify keyHex = .ok key)
    (hk : key.length = 16 ∨ key.length = 24 ∨ key.length = 32) (data : Bytes) (hs : Aes.IsState data) :
    ∃ ct, Src.Aes_encrypt aesE keyHex data = .ok ct ∧ ct.length = 16 ∧
      Src.Aes_decrypt aesD keyHex ct = .ok data := by
  obtain ⟨ct, hct, hcs, hdec⟩ := Aes.block_roundtrip key data hk hs
  refine ⟨ct, ?_, hcs.1, ?_⟩
  · rw [aes_encrypt_eq, hkey, bind_ok_eq]
    unfold aesE
    rw [Aes.ecbEncrypt_one key data hs.1, hct]
  · rw [aes_decrypt_eq, hkey, bind_ok_eq]
    unfold aesD
    rw [Aes.ecbDecrypt_one key ct hcs.1, hdec]

end Cardutil.SrcTie
