import Cardutil.SrcTie.ParamRow
/-
  Source tie for the index-loading loop of `mciipm.IpmParamReader.__init__` (C18): one round of
  `while True: try: vbs_record = super().__next__() except StopIteration: break; …`, translated as a function of the
  record and the loop's state, iterated over the records and related to the model's `Param.scanIndex`; then the two
  phases together: index loop, trailer test, row loop = the model's `Param.read`.
-/
namespace Cardutil.SrcTie

open Cardutil Cardutil.Py

/-- the reader's dictionary and the model's index answer every lookup alike (their list representations differ:
    the dictionary replaces in place, the model puts the newest entry first) -/
def SameLookup (ix : Rt.SDict Text) (ixm : Param.Index) : Prop := ∀ k, Rt.dictGetOpt ix k = ixm.lookup k

theorem dictGetOpt_dictSet {β} (d : Rt.SDict β) (k k' : Text) (v : β) :
    Rt.dictGetOpt (Rt.dictSet d k v) k' = if k == k' then some v else Rt.dictGetOpt d k' := by
  fun_induction Rt.dictSet d k v with
  | case1 k v => rw [dictGetOpt_cons]
  | case2 k0 v0 rest k v h =>
    rw [dictGetOpt_cons, dictGetOpt_cons, beq_iff_eq.mp h]
    split <;> rfl
  | case3 k0 v0 rest k v h ih =>
    have h0 : ¬ k0 = k := by simpa using h
    rw [dictGetOpt_cons, dictGetOpt_cons, ih]
    by_cases h1 : k0 = k'
    · subst h1; simp [Ne.symm h0]
    · simp [h1]

theorem lookup_set (ixm : Param.Index) (k k' v : Text) :
    (ixm.set k v).lookup k' = if k == k' then some v else ixm.lookup k' := by
  unfold Param.Index.set Param.Index.lookup
  rw [List.find?_cons]
  by_cases h : k = k'
  · simp [h]
  · have hb : (k == k') = false := by simpa using h
    -- an entry the filter drops has key `k`, which is not the key looked up
    simp only [hb, Bool.false_eq_true, if_false, List.find?_filter]
    congr 2
    funext a
    by_cases h2 : a.1 = k'
    · simp [h2, Ne.symm h]
    · simp [h2]

theorem sameLookup_set (ix : Rt.SDict Text) (ixm : Param.Index) (h : SameLookup ix ixm) (k v : Text) :
    SameLookup (Rt.dictSet ix k v) (ixm.set k v) := by
  intro k'
  rw [dictGetOpt_dictSet, lookup_set, h k']

/-- one round of the loop, for a record the base reader delivered: the model's step -/
def indexStep (c : Codec) (ix : Rt.SDict Text) (found : Bool) (r : Bytes) : Outcome (Rt.SDict Text × (Bool × Bool)) :=
  match c.decode r with
  | none => .escape .unicodeError
  | some t =>
    let ix' := if Py.slice t 11 19 == Param.ip0000t1 then Rt.dictSet ix (Py.slice t 243 246) (Py.slice t 19 27) else ix
    if t.take Param.trailerPrefix.length == Param.trailerPrefix then .ok (ix', (true, true)) else .ok (ix', (found, false))

theorem index_step_eq (c : Codec) (x : Bool) (ix : Rt.SDict Text) (cfg : Rt.SDict (Rt.SDict (Rt.SDict Int))) (tid : Text)
    (r : Bytes) (found : Bool) :
    Src.IpmParamReader_index_step x (decoderOfCodec c) ix cfg tid r found = indexStep c ix found r := by
  unfold Src.IpmParamReader_index_step indexStep decoderOfCodec Param.ip0000t1 Param.trailerPrefix
  cases c.decode r with
  | none => rfl
  | some t =>
    simp (disch := decide) only [bind_ok_eq, slice_py, Int.reduceToNat]
    -- the translated code tests for the trailer in both branches of the index test
    generalize (Py.slice t 11 19 == _) = isIndex
    cases isIndex <;> rfl

/-- the loop: rounds until the trailer is seen or the records run out; answers the index, whether the trailer was seen,
    and the records not yet read -/
def srcScanIndex (x : Bool) (dec : Bytes → Outcome Text) (cfg : Rt.SDict (Rt.SDict (Rt.SDict Int))) (tid : Text) :
    List Bytes → Rt.SDict Text → Bool → Outcome (Rt.SDict Text × (Bool × List Bytes))
  | [], ix, found => .ok (ix, (found, []))
  | r :: rs, ix, found =>
    (Src.IpmParamReader_index_step x dec ix cfg tid r found).bind (fun st =>
      if st.2.2 then .ok (st.1, (st.2.1, rs)) else srcScanIndex x dec cfg tid rs st.1 st.2.1)

/-- the translated index loop against the model's `scanIndex`: same outcome, an index that answers every lookup alike,
    the same records left for the row loop -/
theorem scan_index_eq (c : Codec) (x : Bool) (cfg : Rt.SDict (Rt.SDict (Rt.SDict Int))) (tid : Text) (recs : List Bytes) :
    ∀ (ix : Rt.SDict Text) (ixm : Param.Index), SameLookup ix ixm →
    match Param.scanIndex c recs ixm with
    | .ok none => ∃ ix', srcScanIndex x (decoderOfCodec c) cfg tid recs ix false = .ok (ix', (false, []))
    | .ok (some (ixm', rest)) => ∃ ix', srcScanIndex x (decoderOfCodec c) cfg tid recs ix false = .ok (ix', (true, rest)) ∧
        SameLookup ix' ixm'
    | .escape k => srcScanIndex x (decoderOfCodec c) cfg tid recs ix false = .escape k
    | .dataError => False
    | .diverge => False := by
  induction recs with
  | nil => intro ix ixm _; exact ⟨ix, rfl⟩
  | cons r rs ih =>
    intro ix ixm hs
    rw [Param.scanIndex, srcScanIndex, index_step_eq]
    unfold indexStep
    cases hd : c.decode r with
    | none => rfl
    | some t =>
      have hs' : SameLookup
          (if Py.slice t 11 19 == Param.ip0000t1 then Rt.dictSet ix (Py.slice t 243 246) (Py.slice t 19 27) else ix)
          (if Py.slice t 11 19 == Param.ip0000t1 then ixm.set (Py.slice t 243 246) (Py.slice t 19 27) else ixm) := by
        split
        · exact sameLookup_set ix ixm hs _ _
        · exact hs
      by_cases h2 : (List.take Param.trailerPrefix.length t == Param.trailerPrefix) = true
      · simp only [h2, if_true, bind_ok_eq]
        exact ⟨_, rfl, hs'⟩
      · simp only [h2, Bool.false_eq_true, if_false, bind_ok_eq]
        exact ih _ _ hs'

/-- C18, the refusal: over records in which the model finds no index trailer, the translated index loop ends with the
    flag `trailer_record_found` still False — the flag the constructor tests to raise the library's error -/
theorem C18_source_missing_trailer (c : Codec) (x : Bool) (cfg : Rt.SDict (Rt.SDict (Rt.SDict Int))) (tid : Text)
    (recs : List Bytes) (h : Param.scanIndex c recs [] = .ok none) :
    ∃ ix', srcScanIndex x (decoderOfCodec c) cfg tid recs [] false = .ok (ix', (false, [])) := by
  have := scan_index_eq c x cfg tid recs [] [] (fun _ => rfl)
  rw [h] at this
  exact this

/-- C18, both phases of the reader as translated: when the index trailer is there, the index loop stops at it with the
    flag True, and the row loop over the records after it returns the dictionaries of exactly the rows of the model's
    `read`, ending the same way -/
theorem C18_source_two_phases (c : Codec) (cfg : Rt.SDict (Rt.SDict (Rt.SDict Int))) (table : Text) (expanded : Bool)
    (layout : Rt.SDict (Rt.SDict Int)) (cols : List (Nat × Nat)) (last : Param.PEnd)
    (hcfg : Rt.dictGet cfg table = .ok layout) (hl : Layout layout cols) (hfresh : FreshColumns layout)
    (hne : cols.isEmpty = false)
    (recs : List Bytes) (ixm : Param.Index) (rest : List Bytes) (h : Param.scanIndex c recs [] = .ok (some (ixm, rest))) :
    ∃ ix', srcScanIndex expanded (decoderOfCodec c) cfg table recs [] false = .ok (ix', (true, rest)) ∧
      srcParamRows expanded (decoderOfCodec c) ix' cfg table last rest =
        ((Param.read c (some cols) table expanded recs last).1.map (rowDict (layout.map (·.1))),
         (Param.read c (some cols) table expanded recs last).2) := by
  have := scan_index_eq c expanded cfg table recs [] [] (fun _ => rfl)
  rw [h] at this
  obtain ⟨ix', h1, h2⟩ := this
  refine ⟨ix', h1, ?_⟩
  rw [C18_source_rows c ix' cfg table expanded layout cols last hcfg hl hfresh rest]
  have hc : Param.rowsOf c cols table expanded ix' last rest = Param.rowsOf c cols table expanded ixm last rest :=
    Param.rowsOf_congr c cols table expanded ix' ixm (fun k => h2 k) last rest
  rw [hc]
  unfold Param.read
  simp only [hne, Bool.false_eq_true, if_false, h]

end Cardutil.SrcTie
