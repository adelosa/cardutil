import Cardutil.SrcTie.Blocked
import Cardutil.SrcTie.IpmRoundTrip
/-
  The IPM file round trip over the BLOCKED (1014) format, for the code as translated (C06): `IpmWriter.write` over the
  translated blocked `VbsWriter.write`, the translated blocked `close`, and `IpmReader.__next__` over the translated
  blocked `VbsReader.__next__` — with the message encoder and decoder as EXTERNAL functions.
-/
namespace Cardutil.SrcTie

open Cardutil Cardutil.Py Cardutil.Vbs

theorem ipm_writeB_eq (fuel : Nat) (D : Dumps) (fin : Bool) (rem : Int) (d : Bytes) (pos : Int) (m : Msg) :
    Src.IpmWriterB_write fuel D fin rem d pos m = (D m).bind (fun r => Src.VbsWriterB_write fuel fin rem d pos r) := by
  unfold Src.IpmWriterB_write
  refine congrArg (Outcome.bind (D m)) (funext fun r => ?_)
  exact bind_ok_right _

/-- `for m in ms: writer.write(m)` with the translated blocked message writer -/
def srcIpmWriteAllB (fuel : Nat) (D : Dumps) :
    Bool × (Int × (Bytes × Int)) → List Msg → Outcome (Bool × (Int × (Bytes × Int)))
  | st, [] => .ok st
  | st, m :: ms => (Src.IpmWriterB_write fuel D st.1 st.2.1 st.2.2.1 st.2.2.2 m).bind (fun st' => srcIpmWriteAllB fuel D st' ms)

theorem ipm_write_allB_records (fuel : Nat) (D : Dumps) (ms : List Msg) (recs : List Bytes)
    (hd : Paired (fun m r => D m = .ok r) ms recs) : ∀ (st : Bool × (Int × (Bytes × Int))),
    srcIpmWriteAllB fuel D st ms = srcWriteAllB fuel st recs := by
  induction hd with
  | nil => intro st; rfl
  | cons hab _ ih =>
    intro st
    show (Src.IpmWriterB_write fuel D st.1 st.2.1 st.2.2.1 st.2.2.2 _).bind _ = _
    rw [ipm_writeB_eq, hab, bind_ok_eq]
    exact congrArg (Outcome.bind _) (funext ih)

/-- as `ipm_next_eq`, over the unblocker -/
theorem ipm_nextB_eq (ffuel : Nat) (L : Loads) (recno : Nat) (last : Option Bytes) (buf rest : Bytes)
    (hf : rest.length < ffuel) :
    Src.IpmReaderB_next ffuel L (recno : Int) (last.getD []) buf rest =
      (match next (unblockSrc 1012) Gen.maxVbsRecordLength ⟨⟨rest, buf⟩, recno, last⟩ with
       | .record r st =>
         (match L r with
          | .ok d => .ok (.ret (d, ((st.recno : Int), (st.last.getD [], (st.src.buf, st.src.rest)))))
          | .dataError => .ok (.libError (recno : Int) (st.last.getD []))
          | .escape k => .escape k
          | .diverge => .diverge)
       | .done .eof => .ok .stop
       | .done (.dataError n ctx) => .ok (.libError (n : Int) ctx)
       | .done _ => .ok .stop) := by
  unfold Src.IpmReaderB_next
  rw [readerB_next_eq ffuel recno last buf rest hf, bind_ok_eq]
  cases hn : next (unblockSrc 1012) Gen.maxVbsRecordLength ⟨⟨rest, buf⟩, recno, last⟩ with
  | record r st =>
    simp only [stepSignalB]
    cases L r <;> rfl
  | done e =>
    cases e <;> rfl

/-- `list(reader)` with the translated blocked `IpmReader.__next__` -/
def srcIpmReadAllB (ffuel : Nat) (L : Loads) : Nat → Int × (Bytes × (Bytes × Bytes)) → List Msg × End
  | 0, _ => ([], .fuel)
  | fuel + 1, st =>
    match Src.IpmReaderB_next ffuel L st.1 st.2.1 st.2.2.1 st.2.2.2 with
    | .ok (.ret r) => let x := srcIpmReadAllB ffuel L fuel r.2; (r.1 :: x.1, x.2)
    | .ok .stop => ([], .eof)
    | .ok (.libError n ctx) => ([], .dataError n.toNat ctx)
    -- unreachable: the decoder's data error comes back as `.libError` (`ipm_nextB_eq`); the next two are the decoder's
    | .dataError => ([], .escape .other)
    | .escape k => ([], .escape k)
    | .diverge => ([], .diverge)

theorem src_ipm_read_allB_eq (ffuel : Nat) (L : Loads) : ∀ (fuel recno : Nat) (last : Option Bytes) (buf rest : Bytes),
    rest.length < ffuel →
    srcIpmReadAllB ffuel L fuel ((recno : Int), (last.getD [], (buf, rest))) =
      ipmReadAll (unblockSrc 1012) Gen.maxVbsRecordLength L fuel ⟨⟨rest, buf⟩, recno, last⟩ := by
  intro fuel
  induction fuel with
  | zero => intros; rfl
  | succ fuel ih =>
    intro recno last buf rest hf
    rw [srcIpmReadAllB, ipmReadAll_succ]
    rw [ipm_nextB_eq ffuel L recno last buf rest hf]
    cases hn : next (unblockSrc 1012) Gen.maxVbsRecordLength ⟨⟨rest, buf⟩, recno, last⟩ with
    | record r st =>
      have hle := next_rest_le _ _ _ _ _ _ hn
      dsimp only
      cases L r with
      | ok d => simp only [ih st.recno st.last st.src.buf st.src.rest (Nat.lt_of_le_of_lt hle hf)]
      | dataError => simp only [Int.toNat_natCast]
      | escape k => rfl
      | diverge => rfl
    | done e => rcases next_done hn with rfl | ⟨ctx, rfl⟩ <;> simp

/-- C06 for the code as translated over the blocked format, writer and reader, for any encoder and decoder that are
    inverse on the messages written (encodings non-empty and within the configured maximum): the messages written are
    the messages read back, in order, then end of data -/
theorem C06_source_roundtrip_blocked (D : Dumps) (L : Loads) (ms : List Msg) (hmax : Gen.maxVbsRecordLength < 4294967296)
    (h : ∀ m ∈ ms, ∃ r, D m = .ok r ∧ L r = .ok m ∧ 0 < r.length ∧ r.length ≤ Gen.maxVbsRecordLength)
    (fuel : Nat) (hfuel : Gen.maxVbsRecordLength < fuel) (hf4 : 4 < fuel) :
    ∃ st1 st2, srcIpmWriteAllB fuel D (false, ((1012 : Int), ([], (0 : Int)))) ms = .ok st1 ∧
      Src.VbsWriterB_close fuel st1.1 st1.2.1 st1.2.2.1 st1.2.2.2 = .ok st2 ∧
      srcIpmReadAllB (st2.2.2.1.length + 1) L (st2.2.2.1.length + 1) ((1 : Int), ([], ([], st2.2.2.1))) = (ms, .eof) := by
  obtain ⟨recs, hD, hL, hlen⟩ := Paired.exists h
  obtain ⟨st1, st2, hw, hc, hr⟩ := C03_source_roundtrip_blocked recs hmax hlen fuel hf4
    (fun r hr => Nat.lt_of_le_of_lt (hlen r hr).2 hfuel)
  refine ⟨st1, st2, ?_, hc, ?_⟩
  · rw [ipm_write_allB_records fuel D ms recs hD]; exact hw
  · rw [src_read_allB_init _ _ _ (Nat.lt_succ_self _)] at hr
    exact (src_ipm_read_allB_eq _ L _ 1 none [] st2.2.2.1 (Nat.lt_succ_self _)).trans
      (ipmReadAll_of_readAll hr hL.mapO_eq)

/-- C07 for the blocked readers as translated, over any bytes (fuel above the file's length): they always return — a
    record / a message, end of data, or the library's error -/
theorem C07_source_blocked_readers_total (L : Loads) (hL : ∀ r, (∃ d, L r = .ok d) ∨ L r = .dataError)
    (ffuel recno : Nat) (last : Option Bytes) (buf rest : Bytes) (hf : rest.length < ffuel) :
    (∃ sig, Src.VbsReaderB_next ffuel (recno : Int) (last.getD []) buf rest = .ok sig) ∧
    (∃ sig, Src.IpmReaderB_next ffuel L (recno : Int) (last.getD []) buf rest = .ok sig) := by
  refine ⟨⟨_, readerB_next_eq ffuel recno last buf rest hf⟩, ?_⟩
  rw [ipm_nextB_eq ffuel L recno last buf rest hf]
  cases hn : next (unblockSrc 1012) Gen.maxVbsRecordLength ⟨⟨rest, buf⟩, recno, last⟩ with
  | record r st =>
    rcases hL r with ⟨d, hd⟩ | hd
    · simp only [hd]; exact ⟨_, rfl⟩
    · simp only [hd]; exact ⟨_, rfl⟩
  | done e => cases e <;> exact ⟨_, rfl⟩

end Cardutil.SrcTie
