import Cardutil.SrcTie.RtLoops
import Cardutil.Gen.Src
import Cardutil.Model.Block1014
import Cardutil.Lemmas.Block
import Cardutil.Props.C04
/-
  Source tie for `mciipm.Block1014.write` and `Block1014.finalise` (C04).  A method is translated
  with `self` made explicit: the fields it uses (`remaining_chars`) and the bytes it hands to the
  wrapped file object's `write` (appended to `self_out`); the translated method returns the new
  state.  The theorems say the translated methods ARE the model's `Block.write` / `Block.finalise`.
-/
namespace Cardutil.SrcTie

open Cardutil Cardutil.Py Cardutil.Block

theorem pp_eq : Rt.mulSeq [64] (2 : Int) = PP := by rw [mulSeq_single]; rfl

/-- the inner `while` of `Block1014.write`, whatever the text of its condition and body: `hc` and `hb` say what one round
    does; `e` is how the loop's state holds the bytes written so far and the bytes left -/
theorem write_loop {σ} {P : Nat} (hP : 0 < P) (e : Bytes × Bytes → σ) {c : σ → Bool} {b : σ → Outcome (Bool × σ)}
    (hc : ∀ o w, c (e (o, w)) = decide (P < w.length))
    (hb : ∀ o w, b (e (o, w)) = .ok (true, e (o ++ w.take P ++ PP, w.drop P))) :
    ∀ (fuel : Nat) (o w : Bytes), w.length < fuel →
      Rt.whileO fuel c b (e (o, w)) = .ok (e (o ++ (wloop P w).1, (wloop P w).2)) := by
  intro fuel
  induction fuel with
  | zero => intro o w h; omega
  | succ fuel ih =>
    intro o w hf
    rw [Rt.whileO, wloop, hc, hb]
    by_cases h : P < w.length
    · simp only [h, hP, and_self, if_true, decide_true, bind_ok_eq]
      rw [ih _ _ (length_drop_lt hf hP (Nat.zero_lt_of_lt h))]
      simp only [List.append_assoc]
    · simp only [h, false_and, if_false, decide_false, Bool.false_eq_true, List.append_nil]

theorem block_write_eq (fuel : Nat) (rem : Nat) (out w : Bytes) (hf : w.length < fuel) :
    Src.Block1014_write fuel (rem : Int) out w =
      .ok ((((write 1012 rem w).2 : Nat) : Int), out ++ (write 1012 rem w).1) := by
  unfold Src.Block1014_write
  rw [len_lt, write]
  by_cases h : w.length < rem
  · simp only [h, decide_true, if_true, Rt.len]
    congr 2
    exact (Int.ofNat_sub (Nat.le_of_lt h)).symm
  · simp only [h, decide_false, Bool.false_eq_true, if_false, slice_to_nat, slice_from_nat, pp_eq]
    rw [write_loop (P := 1012) (by decide) (fun st => st) (fun _ w => len_gt w 1012) (fun o w => ?_) fuel _ _
      (by rw [List.length_drop]; exact Nat.lt_of_le_of_lt (Nat.sub_le ..) hf)]
    · have hle := wloop_snd_le (P := 1012) (by decide) (w.drop rem)
      simp only [bind_ok_eq, Rt.len, List.append_assoc]
      congr 2
      exact (Int.ofNat_sub hle).symm
    · rw [← slice_to_nat, ← slice_from_nat]; rfl

theorem block_finalise_eq (rem : Nat) (out : Bytes) :
    Src.Block1014_finalise (rem : Int) out =
      ((((finalise 1012 rem).2 : Nat) : Int), out ++ (finalise 1012 rem).1) := by
  unfold Src.Block1014_finalise finalise
  simp only []
  rw [mulSeq_single]
  have : ((rem : Int) + 2).toNat = rem + 2 := by omega
  rw [this]
  rfl

/-- `for w in ws: blocker.write(w)` with the translated method -/
def srcWrites (fuel : Nat) : Int × Bytes → List Bytes → Outcome (Int × Bytes)
  | st, [] => .ok st
  | st, w :: ws => (Src.Block1014_write fuel st.1 st.2 w).bind (fun st' => srcWrites fuel st' ws)

theorem src_writes_eq (fuel : Nat) (ws : List Bytes) (hf : ∀ w ∈ ws, w.length < fuel) :
    ∀ (rem : Nat) (out : Bytes),
      srcWrites fuel ((rem : Int), out) ws =
        .ok ((((writes 1012 rem ws).2 : Nat) : Int), out ++ (writes 1012 rem ws).1) := by
  induction ws with
  | nil => intro rem out; simp [srcWrites, writes]
  | cons w ws ih =>
    intro rem out
    simp only [srcWrites, writes]
    rw [block_write_eq fuel rem out w (hf w (by simp))]
    simp only [Outcome.bind]
    rw [ih (fun x hx => hf x (by simp [hx]))]
    simp [List.append_assoc]

/-- C04 for the code as translated: any history of translated `write` calls on a fresh blocker
    followed by the translated `finalise` hands the wrapped file a whole number of 1014-byte blocks
    with correct trailers whose payloads are the data written, then fill -/
theorem C04_source (fuel : Nat) (ws : List Bytes) (hf : ∀ w ∈ ws, w.length < fuel) :
    ∃ st, srcWrites fuel ((1012 : Int), []) ws = .ok st ∧
      (Src.Block1014_finalise st.1 st.2).2 = stream 1012 ws ∧
      (stream 1012 ws).length % 1014 = 0 ∧ wellBlocked 1012 (stream 1012 ws) = true ∧
      ∃ k, k < 2024 ∧ payloads 1012 (stream 1012 ws) = ws.flatten ++ List.replicate k padByte := by
  have h := src_writes_eq fuel ws hf 1012 []
  -- `k < 2024` is the bound as `Props.C04.C04_payloads` states it (`Block.stream_payloads` has `k ≤ 1012`)
  refine ⟨_, h, ?_, Props.C04.C04_whole_blocks ws, Props.C04.C04_trailers ws, Props.C04.C04_payloads ws⟩
  simp only [List.nil_append]
  rw [block_finalise_eq]
  rfl

end Cardutil.SrcTie
