import Cardutil.SrcTie.RoundTrip
import Cardutil.SrcTie.IpmReader
/-
  Source tie for the message writer (C06):
  `IpmWriter.write` (the message encoder an EXTERNAL function of the message, then the base
  class's `write` through `super()`), `IpmWriter.write_many`, and — together with the translated `close`, the translated
  `VbsReader.__next__` and the translated `IpmReader.__next__` — the IPM file round trip for the code as written,
  whatever encoder and decoder are used.
-/
namespace Cardutil.SrcTie

open Cardutil Cardutil.Py Cardutil.Vbs

abbrev Dumps := Rt.SDict Rt.PyVal → Outcome Bytes
abbrev Msg := Rt.SDict Rt.PyVal

/-- two lists of the same length whose members are related position by position -/
inductive Paired {α β} (R : α → β → Prop) : List α → List β → Prop
  | nil : Paired R [] []
  | cons {a b as bs} : R a b → Paired R as bs → Paired R (a :: as) (b :: bs)

theorem Paired.exists {α β} {R₁ R₂ : α → β → Prop} {Q : β → Prop} :
    ∀ {as : List α}, (∀ a ∈ as, ∃ b, R₁ a b ∧ R₂ a b ∧ Q b) →
      ∃ bs, Paired R₁ as bs ∧ Paired R₂ as bs ∧ ∀ b ∈ bs, Q b
  | [], _ => ⟨[], .nil, .nil, fun _ hb => nomatch hb⟩
  | a :: as, h => by
    obtain ⟨b, h1, h2, hq⟩ := h a (by simp)
    obtain ⟨bs, p1, p2, hqs⟩ := Paired.exists (as := as) (fun x hx => h x (by simp [hx]))
    refine ⟨b :: bs, .cons h1 p1, .cons h2 p2, fun x hx => ?_⟩
    rcases List.mem_cons.mp hx with rfl | hx
    · exact hq
    · exact hqs x hx

theorem Paired.mapO_eq {α β} {f : β → Outcome α} {as : List α} {bs : List β}
    (h : Paired (fun a b => f b = .ok a) as bs) : Outcome.mapO f bs = .ok as := by
  induction h with
  | nil => rfl
  | cons hab _ ih => simp only [Outcome.mapO, hab, ih, bind_ok_eq]

theorem ipm_write_eq (D : Dumps) (fin : Bool) (data : Bytes) (pos : Int) (m : Msg) :
    Src.IpmWriter_write D fin data pos m = (D m).bind (fun r => Src.VbsWriter_write fin data pos r) := by
  unfold Src.IpmWriter_write
  refine congrArg (Outcome.bind (D m)) (funext fun r => ?_)
  exact bind_ok_right _

/-- a message the encoder refuses leaves the file untouched: the error is the encoder's, nothing was written -/
theorem C06_source_refused_message_writes_nothing (D : Dumps) (fin : Bool) (data : Bytes) (pos : Int) (m : Msg)
    (h : D m = Outcome.dataError) : Src.IpmWriter_write D fin data pos m = Outcome.dataError := by
  rw [ipm_write_eq, h]; rfl

/-- `for m in ms: self.write(m)` with the translated message writer -/
def srcIpmWriteAll (D : Dumps) : Bool × (Bytes × Int) → List Msg → Outcome (Bool × (Bytes × Int))
  | st, [] => .ok st
  | st, m :: ms => (Src.IpmWriter_write D st.1 st.2.1 st.2.2 m).bind (fun st' => srcIpmWriteAll D st' ms)

theorem ipm_write_many_eq (D : Dumps) (ms : List Msg) : ∀ (fin : Bool) (data : Bytes) (pos : Int),
    Src.IpmWriter_write_many D fin data pos ms = srcIpmWriteAll D (fin, (data, pos)) ms := by
  intro fin data pos
  rw [eq_forO _ (srcIpmWriteAll D) (fun _ => rfl) (fun _ _ _ => rfl)]
  -- as in `write_many_eq`: the generated text only takes the state apart and puts it together again
  show (Rt.forO (fun st m => (Src.IpmWriter_write D st.1 st.2.1 st.2.2 m).bind (fun sc => .ok sc)) ms _).bind
    (fun sc => .ok sc) = _
  simp only [bind_ok_right]

theorem ipm_write_all_records (D : Dumps) (ms : List Msg) (recs : List Bytes)
    (hd : Paired (fun m r => D m = .ok r) ms recs) : ∀ (st : Bool × (Bytes × Int)),
    srcIpmWriteAll D st ms = srcWriteAll st recs := by
  induction hd with
  | nil => intro st; rfl
  | cons hab _ ih =>
    intro st
    show (Src.IpmWriter_write D st.1 st.2.1 st.2.2 _).bind _ = _
    rw [ipm_write_eq, hab, bind_ok_eq]
    exact congrArg (Outcome.bind _) (funext ih)

/-- `list(reader)` with the translated `IpmReader.__next__` -/
def srcIpmReadAll (L : Loads) : Nat → Int × (Bytes × Bytes) → List Msg × End
  | 0, _ => ([], .fuel)
  | fuel + 1, st =>
    match Src.IpmReader_next L st.1 st.2.1 st.2.2 with
    | .ok (.ret r) => let x := srcIpmReadAll L fuel r.2; (r.1 :: x.1, x.2)
    | .ok .stop => ([], .eof)
    | .ok (.libError n ctx) => ([], .dataError n.toNat ctx)
    -- unreachable: the decoder's data error comes back as `.libError` (`ipm_next_eq`); the next two are the decoder's
    | .dataError => ([], .escape .other)
    | .escape k => ([], .escape k)
    | .diverge => ([], .diverge)

theorem src_ipm_read_all_eq (L : Loads) : ∀ (fuel recno : Nat) (last : Option Bytes) (src : Bytes),
    srcIpmReadAll L fuel ((recno : Int), (last.getD [], src)) =
      ipmReadAll plainSrc Gen.maxVbsRecordLength L fuel ⟨src, recno, last⟩ := by
  intro fuel
  induction fuel with
  | zero => intros; rfl
  | succ fuel ih =>
    intro recno last src
    rw [srcIpmReadAll, ipmReadAll_succ]
    rw [ipm_next_eq]
    cases hn : next plainSrc Gen.maxVbsRecordLength ⟨src, recno, last⟩ with
    | record r st =>
      dsimp only
      cases L r with
      | ok d => simp only [ih st.recno st.last st.src]
      | dataError => simp only [Int.toNat_natCast]
      | escape k => rfl
      | diverge => rfl
    | done e => rcases next_done hn with rfl | ⟨ctx, rfl⟩ <;> simp

theorem ipm_read_all_records (L : Loads) (ms : List Msg) (recs : List Bytes)
    (hl : Paired (fun m r => L r = .ok m) ms recs) : ∀ (fuel recno : Nat) (last : Option Bytes) (src : Bytes),
    readAll plainSrc Gen.maxVbsRecordLength fuel ⟨src, recno, last⟩ = (recs, .eof) →
    srcIpmReadAll L fuel ((recno : Int), (last.getD [], src)) = (ms, .eof) := by
  intro fuel recno last src h
  rw [src_ipm_read_all_eq]
  exact ipmReadAll_of_readAll h hl.mapO_eq

/-- C06 for the code as translated, writer and reader, for any encoder and decoder: if the decoder gives back each of
    these messages from its encoding, and each encoding is a non-empty record within the configured maximum, then
    `write_many`, `close`, and iterating the reader returns exactly the messages written, in order, then end of data -/
theorem C06_source_roundtrip (D : Dumps) (L : Loads) (ms : List Msg) (hmax : Gen.maxVbsRecordLength < 4294967296)
    (h : ∀ m ∈ ms, ∃ r, D m = .ok r ∧ L r = .ok m ∧ 0 < r.length ∧ r.length ≤ Gen.maxVbsRecordLength) :
    ∃ st1 st2, Src.IpmWriter_write_many D false [] (0 : Int) ms = .ok st1 ∧
      Src.VbsWriter_close st1.1 st1.2.1 st1.2.2 = .ok st2 ∧
      srcIpmReadAll L (st2.2.1.length + 1) ((1 : Int), ([], st2.2.1)) = (ms, .eof) := by
  obtain ⟨recs, hD, hL, hlen⟩ := Paired.exists h
  obtain ⟨st1, st2, hw, hc, hr⟩ := C03_source_roundtrip recs hmax hlen
  refine ⟨st1, st2, ?_, hc, ?_⟩
  · rw [ipm_write_many_eq, ipm_write_all_records D ms recs hD]; exact hw
  · rw [src_read_all_init] at hr
    exact ipm_read_all_records L ms recs hL (st2.2.1.length + 1) 1 none st2.2.1 hr

/-- the hypothesis is satisfiable: one message, an encoder and decoder that are inverse on it -/
example : ∃ (D : Dumps) (L : Loads) (m : Msg),
    D m = .ok [0x31] ∧ L [0x31] = .ok m ∧ 0 < ([0x31] : Bytes).length :=
  ⟨fun _ => .ok [0x31], fun _ => .ok [], [], rfl, rfl, by decide⟩

end Cardutil.SrcTie
