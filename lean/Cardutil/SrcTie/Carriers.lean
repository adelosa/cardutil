import Cardutil.SrcTie.RtLoops
import Cardutil.SrcTie.SDict
import Cardutil.Lemmas.Insert
import Cardutil.Gen.Src
/-
  Source tie for the PDS-carrier statements of `iso8583._dict_to_iso8583` (C12): the configured PDS elements
  (`[int(key) for key in bit_config if bit_config[key].get('field_processor') == 'PDS']`, `sorted(..., reverse=True)`),
  and the loop `for de_field_value in _pds_to_de(message): de_field_key = de_pds_fields.pop(); message[f'DE{…}'] = …`,
  translated from the current source on a message whose values are texts.
-/
namespace Cardutil.SrcTie

open Cardutil Cardutil.Py

/-- 'PDS' -/
def pdsName : Text := [80, 68, 83]

/-- `'DE' + str(n)` -/
def carrierKey (c : Int) : Text := [68, 69] ++ Rt.strOfInt c

/-- the packed strings handed to the carriers, first string to the first carrier; more strings than carriers: IndexError -/
def srcAssign : List Int → List Text → Rt.SDict Text → Outcome (Rt.SDict Text)
  | _, [], m => .ok m
  | [], _ :: _, _ => .escape .indexError
  | c :: cs, t :: ts, m => srcAssign cs ts (Rt.dictSet m (carrierKey c) t)

/-- the keys of the configuration whose entry names the PDS processor, in configuration order -/
def pdsKeys (cfg : Rt.SDict Rt.BitCfg) : List Text :=
  (Rt.dictKeys cfg).filter (fun k => match Rt.dictGetOpt cfg k with
    | some e => e.field_processor == pdsName
    | none => false)

theorem popLast_concat {α} (l : List α) (x : α) : Rt.popLast (l ++ [x]) = .ok (x, l) := by
  unfold Rt.popLast
  simp

theorem popLast_nil {α} : Rt.popLast ([] : List α) = .escape .indexError := rfl

/-- the carrier loop: popping from the end of the descending list hands the strings to the carriers in ascending order -/
theorem pop_loop (chunks : List Text) : ∀ (asc : List Int) (m : Rt.SDict Text),
    (Rt.forO (fun (st : List Int × Rt.SDict Text) (v : Text) =>
        Outcome.bind (Rt.popLast st.1) (fun pr => .ok (pr.2, Rt.dictSet st.2 ([68, 69] ++ Rt.strOfInt pr.1) v)))
      chunks (asc.reverse, m)).bind (fun st => .ok st.2) = srcAssign asc chunks m := by
  intro asc m
  fun_induction srcAssign asc chunks m with
  | case1 | case2 => rfl
  | case3 c cs t ts m ih =>
    rw [Rt.forO]
    simp only [List.reverse_cons, popLast_concat, bind_ok_eq]
    exact ih

theorem carriers_eq (message : Rt.SDict Text) (cfg : Rt.SDict Rt.BitCfg) :
    Src._dict_to_iso8583_carriers message cfg =
      (Outcome.mapO (Rt.intOfStr Gen.intClasses) (pdsKeys cfg)).bind (fun ns =>
        (Src._pds_to_de message).bind (fun chunks =>
          srcAssign (Rt.sortedIntDesc ns).reverse chunks message)) := by
  unfold Src._dict_to_iso8583_carriers
  have hf : Rt.filterO (fun (key : Text) => Outcome.bind (Rt.dictGet cfg key) (fun t1 =>
      .ok (t1.field_processor == [80, 68, 83]))) (Rt.dictKeys cfg) = .ok (pdsKeys cfg) := by
    unfold pdsKeys
    apply filterO_total
    intro k hk
    obtain ⟨e, h1, h2⟩ := dictGet_of_key cfg k hk
    rw [h1, h2]
    rfl
  rw [hf, bind_ok_eq]
  refine congrArg (Outcome.bind _) (funext fun ns => ?_)
  refine congrArg (Outcome.bind _) (funext fun chunks => ?_)
  have := pop_loop chunks (Rt.sortedIntDesc ns).reverse message
  rw [List.reverse_reverse] at this
  exact this

theorem insertIntDesc_isInsert : IsInsert (fun y x => decide (x ≤ y)) Rt.insertIntDesc :=
  ⟨fun _ => rfl, fun x y ys => by rw [Rt.insertIntDesc]; simp only [decide_eq_true_eq]⟩

theorem sortedIntDesc_perm (l : List Int) : (Rt.sortedIntDesc l).Perm l := insertIntDesc_isInsert.sort_perm l

theorem sortedIntDesc_sorted (l : List Int) : (Rt.sortedIntDesc l).Pairwise (· ≥ ·) :=
  insertIntDesc_isInsert.sort_pairwise (R := (· ≥ ·)) of_decide_eq_true
    (fun h => Int.le_of_lt (Int.not_le.mp (of_decide_eq_false h))) (fun h1 h2 => Int.le_trans h2 h1) l

/-- the carriers are taken in ASCENDING order of element number, and they are exactly the configured PDS elements -/
theorem carriers_ascending (ns : List Int) :
    ((Rt.sortedIntDesc ns).reverse).Pairwise (· ≤ ·) ∧ ((Rt.sortedIntDesc ns).reverse).Perm ns := by
  refine ⟨?_, (List.reverse_perm _).trans (sortedIntDesc_perm ns)⟩
  rw [List.pairwise_reverse]
  exact (sortedIntDesc_sorted ns).imp (fun h => h)

theorem srcAssign_eq (asc : List Int) (chunks : List Text) (m : Rt.SDict Text) :
    srcAssign asc chunks m =
      if chunks.length ≤ asc.length then .ok ((asc.zip chunks).foldl (fun acc p => Rt.dictSet acc (carrierKey p.1) p.2) m)
      else .escape .indexError := by
  fun_induction srcAssign asc chunks m with
  | case1 => simp
  | case2 => rfl
  | case3 c cs t ts m ih => simpa using ih

theorem srcAssign_overflow : ∀ (asc : List Int) (chunks : List Text) (m : Rt.SDict Text),
    asc.length < chunks.length → srcAssign asc chunks m = .escape .indexError := by
  intro asc chunks m h
  rw [srcAssign_eq, if_neg (Nat.not_le.mpr h)]

theorem srcAssign_fits : ∀ (asc : List Int) (chunks : List Text) (m : Rt.SDict Text),
    chunks.length ≤ asc.length →
    srcAssign asc chunks m = .ok ((asc.zip chunks).foldl (fun acc p => Rt.dictSet acc (carrierKey p.1) p.2) m) := by
  intro asc chunks m h
  rw [srcAssign_eq, if_pos h]

/-- C12 for the carrier statements as translated: with `ns` the configured PDS element numbers and `chunks` the packed
    strings, (a) when the strings fit, string i is stored under 'DE' + str(i-th smallest PDS element) and nothing else
    is touched; (b) one string too many ends in IndexError -/
theorem C12_source_carriers (message : Rt.SDict Text) (cfg : Rt.SDict Rt.BitCfg) (ns : List Int) (chunks : List Text)
    (hn : Outcome.mapO (Rt.intOfStr Gen.intClasses) (pdsKeys cfg) = .ok ns) (hc : Src._pds_to_de message = .ok chunks) :
    (chunks.length ≤ ns.length → Src._dict_to_iso8583_carriers message cfg =
        .ok ((((Rt.sortedIntDesc ns).reverse).zip chunks).foldl (fun acc p => Rt.dictSet acc (carrierKey p.1) p.2) message)) ∧
    (ns.length < chunks.length → Src._dict_to_iso8583_carriers message cfg = .escape .indexError) := by
  have hl : ((Rt.sortedIntDesc ns).reverse).length = ns.length := by
    rw [List.length_reverse]; exact (sortedIntDesc_perm ns).length_eq
  rw [carriers_eq, hn, bind_ok_eq, hc, bind_ok_eq, srcAssign_eq, hl]
  exact ⟨fun h => if_pos h, fun h => if_neg (Nat.not_le.mpr h)⟩

/-- a message without PDS entries is returned as it is, whatever the configuration says -/
theorem C12_source_no_pds_untouched (message : Rt.SDict Text) (cfg : Rt.SDict Rt.BitCfg) (ns : List Int)
    (hn : Outcome.mapO (Rt.intOfStr Gen.intClasses) (pdsKeys cfg) = .ok ns) (hc : Src._pds_to_de message = .ok []) :
    Src._dict_to_iso8583_carriers message cfg = .ok message :=
  (C12_source_carriers message cfg ns [] hn hc).1 (Nat.zero_le _) |>.trans (by rw [List.zip_nil_right]; rfl)

/-- the statements on a concrete message (evaluated by the kernel): two PDS carriers configured out of order, one packed
    string — it goes to DE48, the smaller of the two -/
example : Src._dict_to_iso8583_carriers [(Rt.lit "MTI", Rt.lit "1144"), (Rt.lit "PDS0001", Rt.lit "AB")]
    [(Rt.lit "62", {field_type := Rt.lit "LLLVAR", field_length := 0, field_processor := Rt.lit "PDS"}),
     (Rt.lit "2", {field_type := Rt.lit "LLVAR", field_length := 0}),
     (Rt.lit "48", {field_type := Rt.lit "LLLVAR", field_length := 0, field_processor := Rt.lit "PDS"})] =
  .ok [(Rt.lit "MTI", Rt.lit "1144"), (Rt.lit "PDS0001", Rt.lit "AB"), (Rt.lit "DE48", Rt.lit "0001002AB")] := by
  iterate 12 rw [lit_ofList] -- one for each distinct literal
  decide +kernel

end Cardutil.SrcTie
