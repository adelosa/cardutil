import Cardutil.SrcTie.RtLoops
import Cardutil.Gen.Src
import Cardutil.Model.Vbs
import Cardutil.Gen.Limits
import Cardutil.Props.C03
/-
  Source tie for `mciipm.VbsReader.__next__` over a plain byte source (C03, C09, C10): the state is
  (`record_number`, `last_record`, bytes not yet read); `raise StopIteration` and
  `raise MciIpmDataError(…, record_number=…, binary_context_data=…)` are results (`Rt.Signal`).
  The translated method IS the model's `Vbs.next plainSrc` at the configured maximum.
-/
namespace Cardutil.SrcTie

open Cardutil Cardutil.Py Cardutil.Vbs

/-- the model's step as the translated method would report it -/
def stepSignal (s : Step Bytes) : Rt.Signal (Bytes × (Int × (Bytes × Bytes))) :=
  match s with
  | .record r st => .ret (r, ((st.recno : Int), (st.last.getD [], st.src)))
  | .done .eof => .stop
  | .done (.dataError n ctx) => .libError (n : Int) ctx
  | .done _ => .stop  -- unreachable: `next` ends only in eof or dataError (`next_done`)

-- the run-time library's `be32` and the model's `be32dec` are the same two clauses
theorem be32_eq : ∀ l : Bytes, Rt.be32 l = be32dec l := fun _ => rfl

theorem readN_nat (s : Bytes) (n : Nat) : Rt.readN s (n : Int) = (s.take n, s.drop n) := by
  unfold Rt.readN
  rw [if_neg (by omega)]
  rfl

/-- both translations of `VbsReader.__next__` (plain file, Unblock1014 object) once the four length bytes `raw` are read;
    `rd` reads the record -/
def readerTail {τ} (maxLen : Nat) (recno : Int) (raw : Bytes) (rd : Int → Outcome (Bytes × τ)) :
    Outcome (Rt.Signal (Bytes × (Int × (Bytes × τ)))) :=
  if (Rt.len raw != ((4 : Nat) : Int)) then .ok .stop
  else (Rt.unpackI raw).bind fun n =>
    if (decide (n < (0 : Int)) || decide (n > (maxLen : Int))) then .ok (.libError recno raw)
    else if n == (0 : Int) then .ok .stop
    else (rd n).bind fun wv =>
      if (Rt.len wv.1 != n) then .ok (.libError recno (raw ++ wv.1))
      else .ok (.ret (wv.1, (recno + (1 : Int), (raw ++ wv.1, wv.2))))

/-- `sig`: how the translated method reports the model's step (`stepSignal`, `stepSignalB`); `enc`: how it carries the
    source's state -/
theorem readerTail_eq {σ τ} (S : Src σ) (enc : σ → τ) (sig : Step σ → Rt.Signal (Bytes × (Int × (Bytes × τ))))
    (hrec : ∀ r st, sig (.record r st) = .ret (r, ((st.recno : Int), (st.last.getD [], enc st.src))))
    (heof : sig (.done .eof) = .stop) (herr : ∀ n ctx, sig (.done (.dataError n ctx)) = .libError (n : Int) ctx)
    (maxLen : Nat) (st : RState σ) (rd : Int → Outcome (Bytes × τ))
    (hrd : ∀ n : Nat, n ≠ 0 →
      rd (n : Int) = .ok ((S.read (S.read st.src 4).2 n).1, enc (S.read (S.read st.src 4).2 n).2)) :
    readerTail maxLen (st.recno : Int) (S.read st.src 4).1 rd = .ok (sig (next S maxLen st)) := by
  unfold readerTail next
  generalize S.read st.src 4 = h at hrd ⊢
  dsimp only
  rw [len_bne]
  by_cases hl : h.1.length = 4
  · -- comparisons on `Int` become comparisons on `Nat`; `.ok (sig ·)` goes through the model's `if`s;
    -- the two chains then coincide
    simp only [hl, ne_eq, not_true_eq_false, decide_false, Bool.false_eq_true, if_false, Rt.unpackI, if_true, bind_ok_eq,
      be32_eq, natCast_lt_zero, Bool.false_or, gt_iff_lt, Int.ofNat_lt, decide_eq_true_eq]
    generalize be32dec h.1 = n at hrd ⊢
    by_cases h0 : n = 0
    · subst h0
      rw [if_neg (Nat.not_lt_zero _), if_neg (Nat.not_lt_zero _), if_pos rfl, heof]
      rfl
    · have hz : (((n : Nat) : Int) == (0 : Int)) = false := by
        simp only [beq_eq_false_iff_ne, ne_eq, Int.natCast_eq_zero, h0, not_false_eq_true]
      simp only [hz, Bool.false_eq_true, if_false, h0, hrd n h0, bind_ok_eq, len_bne, decide_eq_true_eq,
        apply_ite (fun s => Outcome.ok (sig s)), herr, hrec]
      rfl
  · rw [if_pos (decide_eq_true hl), if_pos hl, heof]

theorem reader_next_eq (recno : Nat) (last : Option Bytes) (src : Bytes) :
    Src.VbsReader_next (recno : Int) (last.getD []) src =
      .ok (stepSignal (next plainSrc Gen.maxVbsRecordLength ⟨src, recno, last⟩)) := by
  refine Eq.trans ?_ (readerTail_eq plainSrc id stepSignal (fun _ _ => rfl) rfl (fun _ _ => rfl) Gen.maxVbsRecordLength
    ⟨src, recno, last⟩ (fun n => .ok (Rt.readN (src.drop 4) n)) (fun n _ => by rw [readN_nat]; rfl))
  unfold Src.VbsReader_next
  rw [slice_to _ _ (by decide), slice_from _ _ (by decide)]
  rfl

/-- `list(reader)` with the translated `__next__`: records delivered, and how the iteration ended -/
def srcReadAll : Nat → Int × (Bytes × Bytes) → List Bytes × End
  | 0, _ => ([], .fuel)
  | fuel + 1, st =>
    match Src.VbsReader_next st.1 st.2.1 st.2.2 with
    | .ok (.ret r) => let x := srcReadAll fuel r.2; (r.1 :: x.1, x.2)
    | .ok .stop => ([], .eof)
    | .ok (.libError n ctx) => ([], .dataError n.toNat ctx)
    -- the last three are unreachable: the translated `__next__` always returns (`reader_next_eq`)
    | .dataError => ([], .escape .other)
    | .escape k => ([], .escape k)
    | .diverge => ([], .diverge)

theorem src_read_all_eq : ∀ (fuel recno : Nat) (last : Option Bytes) (src : Bytes),
    srcReadAll fuel ((recno : Int), (last.getD [], src)) =
      readAll plainSrc Gen.maxVbsRecordLength fuel ⟨src, recno, last⟩ := by
  intro fuel
  induction fuel with
  | zero => intros; rfl
  | succ fuel ih =>
    intro recno last src
    rw [srcReadAll, readAll]
    rw [reader_next_eq]
    cases hs : next plainSrc Gen.maxVbsRecordLength ⟨src, recno, last⟩ with
    | record r st => simp only [stepSignal, ih st.recno st.last st.src]
    | done e => rcases next_done hs with rfl | ⟨ctx, rfl⟩ <;> simp [stepSignal]

theorem src_read_all_init (fuel : Nat) (src : Bytes) :
    srcReadAll fuel ((1 : Int), ([], src)) = readAll plainSrc Gen.maxVbsRecordLength fuel (Vbs.init src) :=
  src_read_all_eq fuel 1 none src

/-- C03 for the code as translated (unblocked): iterating the translated `__next__` over the file
    the writer produces returns exactly the records written, then end of data — any number of
    non-empty records up to the configured maximum -/
theorem C03_source_read (recs : List Bytes) (hmax : Gen.maxVbsRecordLength < 4294967296)
    (h : ∀ r ∈ recs, 0 < r.length ∧ r.length ≤ Gen.maxVbsRecordLength) :
    srcReadAll ((Writer.listToBytes 1012 false recs).length + 1) ((1 : Int), ([], Writer.listToBytes 1012 false recs)) =
      (recs, .eof) := by
  rw [src_read_all_init]
  have := Props.C03.C03_roundtrip_unblocked Gen.maxVbsRecordLength hmax recs h
  simpa [vbsBytesToList, Vbs.init] using this

end Cardutil.SrcTie
