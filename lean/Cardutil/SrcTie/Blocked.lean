import Cardutil.SrcTie.RoundTrip
import Cardutil.SrcTie.Unblock
/-
  Source tie for the BLOCKED (1014) writer and reader (C03, C04, C05 together): `Block1014` translated over a file
  (data + position) instead of an append-only sink — `write`, `finalise`, `seek` —, `VbsWriter.write` / `close` translated
  with `out_file` being such a Block1014 object, and `VbsReader.__next__` translated with `vbs_data` being an
  Unblock1014 object.  The translated methods ARE the model's blocked writer and reader (for a file being written at
  its end, which is where a fresh writer is until it is closed).  Over such a file the inner loop of `Block1014.write`
  is the instance of `write_loop` that carries the position along.
-/
namespace Cardutil.SrcTie

open Cardutil Cardutil.Py Cardutil.Vbs Cardutil.Block

theorem fwrite_end (d b : Bytes) : Rt.fwrite d (d.length : Int) b = (d ++ b, ((d ++ b).length : Int)) := by
  have := fwrite_eq ⟨d, d.length⟩ b
  rwa [Writer.file_write_end] at this

def fCond (st : Int × Bytes × Int × Bytes) : Bool := decide (Rt.len st.2.2.2 > (1012 : Int))

def fBody (st : Int × Bytes × Int × Bytes) : Outcome (Bool × (Int × Bytes × Int × Bytes)) :=
  let fw := Rt.fwrite st.2.1 st.2.2.1 (Rt.slice st.2.2.2 none (some (1012 : Int)))
  let fw2 := Rt.fwrite fw.1 fw.2 (Rt.mulSeq [64] (2 : Int))
  .ok (true, (st.1, fw2.1, fw2.2, Rt.slice st.2.2.2 (some (1012 : Int)) none))

/-- the inner `while` of `Block1014.write` over a file written at its end -/
theorem write_loop_file : ∀ (fuel : Nat) (rem : Int) (d b : Bytes), b.length < fuel →
    Rt.whileO fuel fCond fBody (rem, d, (d.length : Int), b) =
      .ok (rem, d ++ (wloop 1012 b).1, ((d ++ (wloop 1012 b).1).length : Int), (wloop 1012 b).2) := by
  intro fuel rem
  refine write_loop (P := 1012) (by decide) (fun st => (rem, st.1, (st.1.length : Int), st.2)) (fun _ w => len_gt w 1012)
    (fun o w => ?_) fuel
  simp only [fBody, fwrite_end, pp_eq, List.append_assoc]
  rw [← slice_to_nat, ← slice_from_nat]; rfl

theorem block_writeF_eq (fuel : Nat) (rem : Nat) (d w : Bytes) (hf : w.length < fuel) :
    Src.Block1014F_write fuel (rem : Int) d (d.length : Int) w =
      .ok ((((write 1012 rem w).2 : Nat) : Int),
           (d ++ (write 1012 rem w).1, ((d ++ (write 1012 rem w).1).length : Int))) := by
  unfold Src.Block1014F_write
  rw [len_lt, write]
  by_cases h : w.length < rem
  · simp only [h, decide_true, if_true, Rt.len, fwrite_end]
    congr 2
    exact (Int.ofNat_sub (Nat.le_of_lt h)).symm
  · simp only [h, decide_false, Bool.false_eq_true, if_false, slice_to_nat, slice_from_nat, fwrite_end]
    refine (congrArg (Outcome.bind · _) (write_loop_file fuel rem _ _
      (by rw [List.length_drop]; exact Nat.lt_of_le_of_lt (Nat.sub_le ..) hf))).trans ?_
    have hle := wloop_snd_le (P := 1012) (by decide) (w.drop rem)
    simp only [bind_ok_eq, fwrite_end, pp_eq, Rt.len, List.append_assoc]
    congr 2
    exact (Int.ofNat_sub hle).symm

theorem block_finaliseF_eq (rem : Nat) (d : Bytes) :
    Src.Block1014F_finalise (rem : Int) d (d.length : Int) =
      ((((finalise 1012 rem).2 : Nat) : Int), (d ++ (finalise 1012 rem).1, ((d ++ (finalise 1012 rem).1).length : Int))) := by
  unfold Src.Block1014F_finalise
  rw [fwrite_end]
  exact congrArg (fun r : Int × Bytes => (r.1, (r.2, (r.2.length : Int)))) (block_finalise_eq rem d)

/-- `Block1014.seek(pos)`: finalise, then position the wrapped file -/
theorem block_seekF_eq (rem : Nat) (d : Bytes) (pos : Int) :
    Src.Block1014F_seek (rem : Int) d (d.length : Int) pos =
      ((((finalise 1012 rem).2 : Nat) : Int), (d ++ (finalise 1012 rem).1, pos)) := by
  unfold Src.Block1014F_seek
  rw [block_finaliseF_eq]

/-- the writer is where a fresh writer is until it is closed: at the end of what it has written -/
def AtEnd (s : Writer.St) : Prop := s.file.pos = s.file.data.length

/-- the blocked writer state of the model, as the translated methods see it -/
def wstateB (s : Writer.St) : Bool × (Int × (Bytes × Int)) :=
  (s.closed, ((s.rem : Int), (s.file.data, (s.file.pos : Int))))

theorem rawWriteB (fuel : Nat) (s : Writer.St) (hb : s.blocked = true) (he : AtEnd s) (b : Bytes) (hf : b.length < fuel) :
    Src.Block1014F_write fuel (s.rem : Int) s.file.data (s.file.pos : Int) b =
      .ok (((Writer.rawWrite 1012 s b).rem : Int),
           ((Writer.rawWrite 1012 s b).file.data, ((Writer.rawWrite 1012 s b).file.pos : Int))) ∧
    AtEnd (Writer.rawWrite 1012 s b) ∧ (Writer.rawWrite 1012 s b).blocked = true ∧
    (Writer.rawWrite 1012 s b).closed = s.closed := by
  obtain ⟨⟨d, pos⟩, blocked, rem, closed⟩ := s
  simp only [AtEnd] at he
  simp only at hb he
  subst hb
  subst he
  simp only [Writer.rawWrite, if_true, Writer.file_write_end, AtEnd]
  exact ⟨block_writeF_eq fuel rem d b hf, trivial, trivial, trivial⟩

theorem writerB_write_eq (fuel : Nat) (s : Writer.St) (hb : s.blocked = true) (he : AtEnd s) (r : Bytes)
    (hr : r.length < 4294967296) (hf : r.length < fuel) (hf4 : 4 < fuel) :
    Src.VbsWriterB_write fuel s.closed (s.rem : Int) s.file.data (s.file.pos : Int) r =
      .ok (wstateB (Writer.write 1012 s r)) ∧
    AtEnd (Writer.write 1012 s r) ∧ (Writer.write 1012 s r).blocked = true ∧ (Writer.write 1012 s r).closed = s.closed := by
  unfold Src.VbsWriterB_write
  dsimp only
  have hp : Rt.packI (Rt.len r) = .ok (be32 r.length) := packI_eq r.length hr
  rw [hp, bind_ok_eq]
  obtain ⟨h1, he1, hb1, hc1⟩ := rawWriteB fuel s hb he (be32 r.length) (by rw [be32_length]; exact hf4)
  rw [h1, bind_ok_eq]
  obtain ⟨h2, he2, hb2, hc2⟩ := rawWriteB fuel (Writer.rawWrite 1012 s (be32 r.length)) hb1 he1 r hf
  simp only []
  rw [h2, bind_ok_eq]
  unfold Writer.write
  refine ⟨?_, he2, hb2, hc2.trans hc1⟩
  simp only [wstateB, hc2, hc1]

theorem writerB_close_eq (fuel : Nat) (s : Writer.St) (hb : s.blocked = true) (he : AtEnd s) (hc : s.closed = false)
    (hf4 : 4 < fuel) :
    Src.VbsWriterB_close fuel s.closed (s.rem : Int) s.file.data (s.file.pos : Int) =
      .ok (wstateB (Writer.close 1012 s)) := by
  rw [Src.VbsWriterB_close, Writer.close, hc, if_neg Bool.false_ne_true, if_neg Bool.false_ne_true]
  obtain ⟨h1, he1, hb1, -⟩ := rawWriteB fuel s hb he (be32 0) (by rw [be32_length]; exact hf4)
  rw [packI_zero, bind_ok_eq, h1, bind_ok_eq]
  -- only the state after the zero length matters from here on
  generalize Writer.rawWrite 1012 s (be32 0) = s1 at he1 hb1 ⊢
  obtain ⟨⟨d, pos⟩, blocked, rem, closed⟩ := s1
  simp only [AtEnd] at he1 hb1
  subst he1 hb1
  simp only [block_seekF_eq, if_true, Writer.file_write_end, wstateB, File.seek0]
  rfl

theorem writerB_exit_eq (fuel : Nat) (fin : Bool) (rem : Int) (d : Bytes) (pos : Int) :
    Src.VbsWriterB_exit fuel fin rem d pos () () () = Src.VbsWriterB_close fuel fin rem d pos := by
  unfold Src.VbsWriterB_exit
  exact bind_ok_right _

theorem writerB_close_closed (fuel : Nat) (rem : Int) (d : Bytes) (pos : Int) :
    Src.VbsWriterB_close fuel true rem d pos = .ok (true, (rem, (d, pos))) := by
  rfl

/-- `close()` or leaving the `with` block, with the translated blocked methods -/
def srcFinB (fuel : Nat) (st : Bool × (Int × (Bytes × Int))) (f : Writer.Fin) : Outcome (Bool × (Int × (Bytes × Int))) :=
  match f with
  | .close => Src.VbsWriterB_close fuel st.1 st.2.1 st.2.2.1 st.2.2.2
  | .exit => Src.VbsWriterB_exit fuel st.1 st.2.1 st.2.2.1 st.2.2.2 () () ()

def srcFinsB (fuel : Nat) : Bool × (Int × (Bytes × Int)) → List Writer.Fin → Outcome (Bool × (Int × (Bytes × Int)))
  | st, [] => .ok st
  | st, f :: fs => (srcFinB fuel st f).bind (fun st' => srcFinsB fuel st' fs)

theorem srcFinB_eq (fuel : Nat) (st : Bool × (Int × (Bytes × Int))) (f : Writer.Fin) :
    srcFinB fuel st f = Src.VbsWriterB_close fuel st.1 st.2.1 st.2.2.1 st.2.2.2 := by
  cases f
  · rfl
  · exact writerB_exit_eq fuel _ _ _ _

theorem srcFinsB_closed (fuel : Nat) (fs : List Writer.Fin) (st : Bool × (Int × (Bytes × Int))) (h : st.1 = true) :
    srcFinsB fuel st fs = .ok st := by
  induction fs with
  | nil => rfl
  | cons f fs ih =>
    obtain ⟨fin, rem, d, pos⟩ := st
    subst h
    rw [srcFinsB, srcFinB_eq, writerB_close_closed, bind_ok_eq, ih]

/-- C11 for the code as translated (blocked writer, not yet finalised, at the end of what it has written): any non-empty
    history of translated `close()` / `__exit__` calls leaves exactly the state — file content, position, counters — a
    single `close()` leaves: the model's closed file.  A second finalisation writes nothing. -/
theorem C11_source_blocked (fuel : Nat) (hf4 : 4 < fuel) (s : Writer.St) (hb : s.blocked = true) (he : AtEnd s)
    (hc : s.closed = false) (f : Writer.Fin) (fs : List Writer.Fin) :
    srcFinsB fuel (wstateB s) (f :: fs) = .ok (wstateB (Writer.close 1012 s)) := by
  rw [srcFinsB, srcFinB_eq]
  show (Src.VbsWriterB_close fuel s.closed (s.rem : Int) s.file.data (s.file.pos : Int)).bind _ = _
  rw [writerB_close_eq fuel s hb he hc hf4, bind_ok_eq]
  exact srcFinsB_closed fuel fs _ (Writer.close_closed 1012 s)

/-- the model's step over the unblocker, as the translated method would report it -/
def stepSignalB (s : Step Unblock.St) : Rt.Signal (Bytes × (Int × (Bytes × (Bytes × Bytes)))) :=
  match s with
  | .record r st => .ret (r, ((st.recno : Int), (st.last.getD [], (st.src.buf, st.src.rest))))
  | .done .eof => .stop
  | .done (.dataError n ctx) => .libError (n : Int) ctx
  | .done _ => .stop  -- unreachable: `next` ends only in eof or dataError (`next_done`)

theorem readerB_next_eq (fuel : Nat) (recno : Nat) (last : Option Bytes) (buf rest : Bytes) (hf : rest.length < fuel) :
    Src.VbsReaderB_next fuel (recno : Int) (last.getD []) buf rest =
      .ok (stepSignalB (next (unblockSrc 1012) Gen.maxVbsRecordLength ⟨⟨rest, buf⟩, recno, last⟩)) := by
  refine Eq.trans ?_ (readerTail_eq (unblockSrc 1012) (fun u => (u.buf, u.rest)) stepSignalB (fun _ _ => rfl) rfl
    (fun _ _ => rfl) Gen.maxVbsRecordLength ⟨⟨rest, buf⟩, recno, last⟩
    (fun n => Src.Unblock1014_read fuel (Unblock.read 1012 ⟨rest, buf⟩ (some 4)).2.buf
      (Unblock.read 1012 ⟨rest, buf⟩ (some 4)).2.rest n) ?_)
  · unfold Src.VbsReaderB_next
    have h4 := unblock_read_eq fuel buf rest 4 hf
    rw [show ((4 : Nat) : Int) = (4 : Int) from rfl] at h4
    rw [h4, bind_ok_eq]
    rfl
  · intro n hn
    have hle := Unblock.read_rest_le 1012 ⟨rest, buf⟩ (some 4)
    rw [unblock_read_eq fuel _ _ n (Nat.lt_of_le_of_lt hle hf), show needOf n = some n from if_neg hn]
    rfl

/-- `for r in recs: writer.write(r)` with the translated blocked writer -/
def srcWriteAllB (fuel : Nat) : Bool × (Int × (Bytes × Int)) → List Bytes → Outcome (Bool × (Int × (Bytes × Int)))
  | st, [] => .ok st
  | st, r :: rs => (Src.VbsWriterB_write fuel st.1 st.2.1 st.2.2.1 st.2.2.2 r).bind (fun st' => srcWriteAllB fuel st' rs)

theorem src_write_allB_eq (fuel : Nat) (hf4 : 4 < fuel) (recs : List Bytes)
    (hr : ∀ r ∈ recs, r.length < 4294967296 ∧ r.length < fuel) :
    ∀ (s : Writer.St), s.blocked = true → AtEnd s →
      srcWriteAllB fuel (wstateB s) recs = .ok (wstateB (recs.foldl (Writer.write 1012) s)) ∧
      AtEnd (recs.foldl (Writer.write 1012) s) ∧ (recs.foldl (Writer.write 1012) s).blocked = true ∧
      (recs.foldl (Writer.write 1012) s).closed = s.closed := by
  induction recs with
  | nil => intro s hb he; exact ⟨rfl, he, hb, rfl⟩
  | cons r rs ih =>
    intro s hb he
    obtain ⟨h1, he1, hb1, hc1⟩ := writerB_write_eq fuel s hb he r (hr r (by simp)).1 (hr r (by simp)).2 hf4
    obtain ⟨h2, he2, hb2, hc2⟩ := ih (fun x hx => hr x (by simp [hx])) _ hb1 he1
    refine ⟨?_, he2, hb2, hc2.trans hc1⟩
    show (Src.VbsWriterB_write fuel s.closed (s.rem : Int) s.file.data (s.file.pos : Int) r).bind _ = _
    rw [h1, bind_ok_eq]
    exact h2

/-- `list(reader)` with the translated blocked `__next__` (`ffuel`: fuel of the unblocker's refill loop) -/
def srcReadAllB (ffuel : Nat) : Nat → Int × (Bytes × (Bytes × Bytes)) → List Bytes × End
  | 0, _ => ([], .fuel)
  | fuel + 1, st =>
    match Src.VbsReaderB_next ffuel st.1 st.2.1 st.2.2.1 st.2.2.2 with
    | .ok (.ret r) => let x := srcReadAllB ffuel fuel r.2; (r.1 :: x.1, x.2)
    | .ok .stop => ([], .eof)
    | .ok (.libError n ctx) => ([], .dataError n.toNat ctx)
    -- the last three are unreachable while the refill loop has fuel: the translated `__next__` returns (`readerB_next_eq`)
    | .dataError => ([], .escape .other)
    | .escape k => ([], .escape k)
    | .diverge => ([], .diverge)

theorem next_rest_le (maxLen recno : Nat) (last : Option Bytes) (src : Unblock.St) (r : Bytes) (st : RState Unblock.St)
    (h : next (unblockSrc 1012) maxLen ⟨src, recno, last⟩ = .record r st) : st.src.rest.length ≤ src.rest.length := by
  obtain ⟨n, _, _, _, _, rfl⟩ := next_eq_record h
  exact Nat.le_trans (Unblock.read_rest_le _ _ _) (Unblock.read_rest_le _ _ _)

theorem src_read_allB_eq (ffuel : Nat) : ∀ (fuel recno : Nat) (last : Option Bytes) (buf rest : Bytes),
    rest.length < ffuel →
    srcReadAllB ffuel fuel ((recno : Int), (last.getD [], (buf, rest))) =
      readAll (unblockSrc 1012) Gen.maxVbsRecordLength fuel ⟨⟨rest, buf⟩, recno, last⟩ := by
  intro fuel
  induction fuel with
  | zero => intros; rfl
  | succ fuel ih =>
    intro recno last buf rest hf
    rw [srcReadAllB, readAll]
    rw [readerB_next_eq ffuel recno last buf rest hf]
    cases hs : next (unblockSrc 1012) Gen.maxVbsRecordLength ⟨⟨rest, buf⟩, recno, last⟩ with
    | record r st =>
      have hle := next_rest_le _ _ _ _ _ _ hs
      simp only [stepSignalB, ih st.recno st.last st.src.buf st.src.rest (Nat.lt_of_le_of_lt hle hf)]
    | done e => rcases next_done hs with rfl | ⟨ctx, rfl⟩ <;> simp [stepSignalB]

theorem src_read_allB_init (ffuel fuel : Nat) (file : Bytes) (hf : file.length < ffuel) :
    srcReadAllB ffuel fuel ((1 : Int), ([], ([], file))) =
      readAll (unblockSrc 1012) Gen.maxVbsRecordLength fuel (Vbs.init ⟨file, []⟩) :=
  src_read_allB_eq ffuel fuel 1 none [] file hf

/-- C03 for the code as translated, BLOCKED writer AND reader: write the records with the translated `VbsWriter.write`
    over a translated `Block1014`, finalise with the translated `close`, and iterate the translated `VbsReader.__next__`
    over a translated `Unblock1014` — the records come back unchanged, in order, then end of data.  Nothing in this
    statement mentions the hand-written models: they are only the bridge of the proof. -/
theorem C03_source_roundtrip_blocked (recs : List Bytes) (hmax : Gen.maxVbsRecordLength < 4294967296)
    (h : ∀ r ∈ recs, 0 < r.length ∧ r.length ≤ Gen.maxVbsRecordLength)
    (fuel : Nat) (hf4 : 4 < fuel) (hfuel : ∀ r ∈ recs, r.length < fuel) :
    ∃ st1 st2, srcWriteAllB fuel (false, ((1012 : Int), ([], (0 : Int)))) recs = .ok st1 ∧
      Src.VbsWriterB_close fuel st1.1 st1.2.1 st1.2.2.1 st1.2.2.2 = .ok st2 ∧
      srcReadAllB (st2.2.2.1.length + 1) (st2.2.2.1.length + 1) ((1 : Int), ([], ([], st2.2.2.1))) = (recs, .eof) := by
  obtain ⟨hw, he1, hb1, hc1⟩ := src_write_allB_eq fuel hf4 recs
    (fun r hr => ⟨Nat.lt_of_le_of_lt (h r hr).2 hmax, hfuel r hr⟩) (Writer.init 1012 true) rfl rfl
  refine ⟨_, _, hw, writerB_close_eq fuel _ hb1 he1 hc1 hf4,
    (src_read_allB_init _ _ (Writer.listToBytes 1012 true recs) (Nat.lt_succ_self _)).trans ?_⟩
  exact Props.C03.C03_roundtrip_blocked Gen.maxVbsRecordLength hmax recs h

end Cardutil.SrcTie
