import Cardutil.SrcTie.Loop
import Cardutil.SrcTie.EncLoop
import Cardutil.SrcTie.Bits
/-
  The encoding loop and the decoding loop of `iso8583.py` TOGETHER, for the code as translated (C01): what the translated
  `_dict_to_iso8583` loop and assembly write, the translated `_iso8583_to_dict` reads back — for ANY element encoder and
  element decoder such that every present element's rendering is decoded back, whatever follows it in the message
  (`Recovers`), and any bitmap reader that inverts the bitmap writer; last with the translated `BitArray` as that reader.
-/
namespace Cardutil.SrcTie

open Cardutil Cardutil.Py

/-- "the present elements among `bs` are each decoded back from their own rendering, and their entries accumulate" -/
inductive Recovers (FD : FieldDec) (FE : FieldEnc) (message : Rt.SDict Rt.AnyVal) (cfg : Rt.SDict Rt.BitCfg)
    (enc : Text → Outcome Bytes) (dec : Bytes → Outcome Text) :
    List Int → Rt.SDict Rt.PyVal → Rt.SDict Rt.PyVal → Prop
  | nil (acc) : Recovers FD FE message cfg enc dec [] acc acc
  | cons (b bs acc f r e acc') :
      Rt.dictGet cfg (Rt.strOfInt b) = .ok f →
      FE f (Rt.dictGetOpt message (deKey b)) enc = .ok r →
      (∀ rest : Bytes, FD b f (r ++ rest) dec = .ok (e, (r.length : Int))) →
      Recovers FD FE message cfg enc dec bs (Rt.dictUpdate acc e) acc' →
      Recovers FD FE message cfg enc dec (b :: bs) acc acc'

/-- what is written is what is read: along the same list of elements, the renderings laid one after the other are
    tiled by the decoder, starting after any prefix `d0` and whatever suffix follows -/
theorem emits_recovers_tiles {FD : FieldDec} {FE : FieldEnc} {message : Rt.SDict Rt.AnyVal} {cfg : Rt.SDict Rt.BitCfg}
    {enc : Text → Outcome Bytes} {dec : Bytes → Outcome Text} :
    ∀ {bs : List Int} {acc acc' : Rt.SDict Rt.PyVal}, Recovers FD FE message cfg enc dec bs acc acc' →
    ∀ {out out' : Bytes}, Emits FE message cfg enc bs out out' →
    ∃ tail : Bytes, out' = out ++ tail ∧
      ∀ (d0 sfx : Bytes), Tiles FD cfg dec (d0 ++ (tail ++ sfx)) bs (d0.length : Int) acc
        ((d0.length : Int) + (tail.length : Int)) acc' := by
  intro bs acc acc' hr
  induction hr with
  | nil acc =>
    intro out out' he
    cases he
    exact ⟨[], by simp, fun d0 sfx => by simpa using Tiles.nil (d0.length : Int) acc⟩
  | cons b bs acc f r e acc' hf hE hD _ ih =>
    intro out out' he
    cases he with
    | cons _ _ _ f' r' _ hf' hE' ht =>
      cases hf.symm.trans hf'
      cases hE.symm.trans hE'
      obtain ⟨tail, rfl, htl⟩ := ih ht
      refine ⟨r ++ tail, List.append_assoc _ _ _, fun d0 sfx => ?_⟩
      -- both sides over the data `d0 ++ (r ++ (tail ++ sfx))`, the rest starting at `|d0| + |r|`
      have ht2 := htl (d0 ++ r) sfx
      rw [List.append_assoc, List.length_append, Int.natCast_add] at ht2
      rw [List.append_assoc r, List.length_append, Int.natCast_add, ← Int.add_assoc]
      exact .cons b bs _ acc f e _ _ acc' hf (by rw [slice_from_nat, List.drop_left]; exact hD _) ht2

/-- the flags the encoder wrote select, on the decoder's side, exactly the elements that were present (`x` is entry 0 of
    the decoder's bitmap list: `_get_bitmap_list` puts the bitmap object there, so that bit n is entry n) -/
theorem flagged_written (message : Rt.SDict Rt.AnyVal) (flags : List Bool) (x : Bool) (hl : flags.length = 128)
    (hf : ∀ i (hi : i < flags.length), flags[i] = (i == 0 || (presentBits message).any (fun b => (b - 1).toNat == i))) :
    flagged (x :: flags) (Rt.range 2 129) = presentBits message := by
  unfold flagged presentBits
  refine List.filter_congr fun b hb => ?_
  have hr := mem_rtRange.mp hb
  -- `b = n + 1` for a natural `n` (bit `b` is entry `n` of `flags`), which leaves one `toNat` to reason about
  obtain ⟨n, hn⟩ := Int.eq_ofNat_of_zero_le (show 0 ≤ b - 1 by omega)
  obtain rfl := Int.sub_eq_iff_eq_add.mp hn
  have hi : n < flags.length := by omega
  rw [Int.toNat_natCast_add_one, List.getD_cons_succ, List.getD_eq_getElem?_getD, List.getElem?_eq_getElem hi,
    Option.getD_some, hf n hi, beq_false_of_ne (by omega), Bool.false_or, Bool.eq_iff_iff, List.any_eq_true]
  -- among the present elements, one equals b exactly when b is present
  constructor
  · rintro ⟨c, hc, he⟩
    have := mem_rtRange.mp (List.mem_filter.mp hc).1
    rw [show (n : Int) + 1 = c by have := beq_iff_eq.mp he; omega]
    exact (List.mem_filter.mp hc).2
  · exact fun hp => ⟨_, List.mem_filter.mpr ⟨hb, hp⟩, beq_iff_eq.mpr (by rw [Int.add_sub_cancel, Int.toNat_natCast])⟩

/-- C01 for the two loops as translated: if every present element's rendering decodes back whatever follows it
    (`Recovers`) and the bitmap reader inverts the bitmap writer, the message the translated encoder assembles — MTI,
    binary bitmap, element data — is read back by the translated decoding loop as the accumulated dictionary -/
theorem C01_source_loop_roundtrip (FE : FieldEnc) (FD : FieldDec) (G : Bytes → List Bool)
    (message : Rt.SDict Rt.AnyVal) (cfg : Rt.SDict Rt.BitCfg) (enc : Text → Outcome Bytes) (dec : Bytes → Outcome Text)
    (out : Bytes) (rv d : Rt.SDict Rt.PyVal)
    (henc : Src._dict_to_iso8583_loop FE message cfg enc false = .ok out)
    (hrec : Recovers FD FE message cfg enc dec (presentBits message) rv d)
    (hG : ∀ flags : List Bool, flags.length = 128 → G (Iso.bytesOfBits flags) = false :: flags) :
    ∃ mti body flags, mtiOf message enc = .ok mti ∧ flags.length = 128 ∧
      out = (mti ++ Iso.bytesOfBits flags) ++ body ∧
      ∀ msg : Bytes, Src._iso8583_to_dict_loop G FD msg body (Iso.bytesOfBits flags) cfg dec rv = .ok d := by
  obtain ⟨mti, body, flags, hm, hem, hl, hf, ho⟩ := C02_source_loop_layout FE message cfg enc false out henc
  refine ⟨mti, body, flags, hm, hl, by simpa using ho, ?_⟩
  intro msg
  have hGl : (G (Iso.bytesOfBits flags)).length = 129 := by rw [hG flags hl]; simp [hl]
  rw [C08_source_loop_tiles G FD msg body (Iso.bytesOfBits flags) cfg dec rv d hGl, hG flags hl,
    flagged_written message flags false hl hf]
  obtain ⟨tail, rfl, htl⟩ := emits_recovers_tiles hrec hem
  simpa [Rt.len] using htl [] []

theorem header_assembled (dec : Bytes → Outcome Text) (mti bm body : Bytes) (t : Text) (n : Int)
    (h4 : mti.length = 4) (h16 : bm.length = 16) (hd : dec mti = .ok t)
    (hn : Rt.pyvalInt Gen.intClasses (Rt.PyVal.str t) = .ok n) :
    header dec false ((mti ++ bm) ++ body) = .ok (t, bm, body) := by
  have := unpack3_append mti bm body (Rt.len ((mti ++ bm) ++ body) - 20) (by rw [h4, h16]; rfl)
  rw [h4, h16] at this
  simp only [header, Bool.false_eq_true, if_false, this, catch_ok, bind_ok_eq, hd, hn]

/-- C01 for the WHOLE encoder loop / assembly and the WHOLE decoder as translated (binary bitmap): a message whose MTI
    is rendered in four bytes that decode back to a number, and whose present elements are each decoded back from their
    own rendering (`Recovers`, started from the MTI entry), comes back from `_iso8583_to_dict` as the accumulated
    dictionary -/
theorem C01_source_whole_roundtrip (FE : FieldEnc) (FD : FieldDec) (G : Bytes → List Bool)
    (message : Rt.SDict Rt.AnyVal) (cfg : Rt.SDict Rt.BitCfg) (enc : Text → Outcome Bytes) (dec : Bytes → Outcome Text)
    (out mti : Bytes) (t : Text) (n : Int) (d : Rt.SDict Rt.PyVal)
    (henc : Src._dict_to_iso8583_loop FE message cfg enc false = .ok out)
    (hmti : mtiOf message enc = .ok mti) (h4 : mti.length = 4) (hd : dec mti = .ok t)
    (hn : Rt.pyvalInt Gen.intClasses (Rt.PyVal.str t) = .ok n)
    (hrec : Recovers FD FE message cfg enc dec (presentBits message) [([77, 84, 73], Rt.PyVal.str t)] d)
    (hG : ∀ flags : List Bool, flags.length = 128 → G (Iso.bytesOfBits flags) = false :: flags) :
    Src._iso8583_to_dict G FD out cfg dec false = .ok d := by
  obtain ⟨mti', body, flags, hm', hl, ho, hloop⟩ :=
    C01_source_loop_roundtrip FE FD G message cfg enc dec out _ d henc hrec hG
  cases hm'.symm.trans hmti
  have h16 : (Iso.bytesOfBits flags).length = 16 := Iso.bytesOfBits_length 16 flags (by rw [hl])
  rw [whole_eq, ho, header_assembled dec mti (Iso.bytesOfBits flags) body t n h4 h16 hd hn, bind_ok_eq]
  exact hloop _

/-- `_get_bitmap_list` with the TRANSLATED `BitArray.tolist` behind it: the bitmap object first (a placeholder here),
    then the bits.  A `tolist` that raised would read as no bits; on the bitmaps the encoder writes it returns
    (`bitmapReader_inverts`) -/
def bitmapReader (bm : Bytes) : List Bool :=
  false :: (match Src.BitArray_tolist bm with | .ok bits => bits | _ => [])

theorem bitmapReader_inverts (flags : List Bool) (hl : flags.length = 128) :
    bitmapReader (Iso.bytesOfBits flags) = false :: flags := by
  rw [bitmapReader, tolist_bytesOfBits flags 16 hl (by decide)]

/-- C01, whole encoder and whole decoder as translated, with the translated `BitArray` reading the bitmap: no hypothesis
    about the bitmap is left — only the element encoder / decoder pair is a parameter -/
theorem C01_source_whole_roundtrip_bits (FE : FieldEnc) (FD : FieldDec)
    (message : Rt.SDict Rt.AnyVal) (cfg : Rt.SDict Rt.BitCfg) (enc : Text → Outcome Bytes) (dec : Bytes → Outcome Text)
    (out mti : Bytes) (t : Text) (n : Int) (d : Rt.SDict Rt.PyVal)
    (henc : Src._dict_to_iso8583_loop FE message cfg enc false = .ok out)
    (hmti : mtiOf message enc = .ok mti) (h4 : mti.length = 4) (hd : dec mti = .ok t)
    (hn : Rt.pyvalInt Gen.intClasses (Rt.PyVal.str t) = .ok n)
    (hrec : Recovers FD FE message cfg enc dec (presentBits message) [([77, 84, 73], Rt.PyVal.str t)] d) :
    Src._iso8583_to_dict bitmapReader FD out cfg dec false = .ok d :=
  C01_source_whole_roundtrip FE FD bitmapReader message cfg enc dec out mti t n d henc hmti h4 hd hn hrec
    bitmapReader_inverts

/-- the hypotheses can be met: a message with no data element at all round-trips (the MTI alone) -/
example (FE : FieldEnc) (FD : FieldDec) (cfg : Rt.SDict Rt.BitCfg) (enc : Text → Outcome Bytes) (dec : Bytes → Outcome Text)
    (acc : Rt.SDict Rt.PyVal) : Recovers FD FE [] cfg enc dec [] acc acc := Recovers.nil acc

end Cardutil.SrcTie
