import Cardutil.SrcTie.Pin
import Cardutil.Model.Iso8583
import Cardutil.Lemmas.Bitmap
/-
  Source tie for `cardutil.BitArray` (C01, C02: "bit list <-> bytes conversion"): the translated `tolist` and
  `fromlist` — which go through ONE big integer (`int(hexlify(bytes), 16)` formatted in binary; `int(bits, 2)`
  turned into bytes) — ARE the byte-by-byte models `Iso.bitsOfBytes` / `Iso.bytesOfBits`, for every non-empty
  byte string / every non-empty list of whole bytes of bits.
-/
namespace Cardutil.SrcTie

open Cardutil Cardutil.Py Cardutil.Digits

theorem toDigits2_bytes (b : Bytes) (hb : IsBytes b) :
    toDigits 2 (8 * b.length) (fromDigits 256 b) = b.flatMap (toDigits 2 8) :=
  toDigits_fromDigits_pow (b := 2) 8 b hb

theorem bitchar (d : Nat) : (([48 + d] : List Nat) == [49]) = (d == 1) := by
  rw [Bool.eq_iff_iff, beq_iff_eq, beq_iff_eq, List.cons.injEq, and_iff_left rfl]
  omega

/-- `BitArray.tolist()` (big-endian, the class default) of a non-empty byte string -/
theorem tolist_eq (b : Bytes) (hb : IsBytes b) (hne : b ≠ []) : Src.BitArray_tolist b = .ok (Iso.bitsOfBytes b) := by
  -- a byte string is the base-256 digits of its value, so its hex digits are the base-16 digits of that value
  have hnib : Pin.bytesToNibbles b = toDigits 16 (2 * b.length) (fromDigits 256 b) :=
    (congrArg Pin.bytesToNibbles (toDigits_fromDigits b hb)).symm.trans (Pin.toDigits256_nibbles _ _)
  have hlen : 1 ≤ 2 * b.length := Nat.mul_pos Nat.two_pos (List.length_pos_iff.mpr hne)
  have hw : (Rt.len b * (8 : Int)).toNat = 8 * b.length := (Int.toNat_natCast (b.length * 8)).trans (Nat.mul_comm ..)
  unfold Src.BitArray_tolist
  dsimp only
  rw [hexlify_eq b hb, intHex_bind, hnib,
    intHex_toDigits _ _ hlen (by rw [Nat.pow_mul]; exact fromDigits_lt b hb), bind_ok_eq]
  simp only [Rt.fmtBinW, Int.toNat_natCast, hw, Pin.fmtBinW, List.map_map]
  rw [if_pos (by rw [Nat.pow_mul]; exact fromDigits_lt b hb), toDigits2_bytes b hb, Iso.bitsOfBytes_eq_digits]
  exact congrArg _ (List.map_congr_left (fun d _ => bitchar d))

theorem join_bitchars (bits : List Bool) :
    Rt.joinStr (bits.map (fun val => if val then [49] else [48])) = (bits.map Iso.b2n).map (48 + ·) := by
  refine (congrArg Rt.joinStr ?_).trans (joinStr_singletons _)
  rw [List.map_map, List.map_map]
  exact List.map_congr_left fun b _ => by cases b <;> rfl

theorem b2n_lt (bits : List Bool) : ∀ d ∈ bits.map Iso.b2n, d < 2 := Iso.b2n_lt bits

/-- `BitArray.fromlist(bits)` for one or more whole bytes of bits: the new `self.bytes` -/
theorem fromlist_eq (old : Bytes) (bits : List Bool) (n : Nat) (h : bits.length = 8 * n) (hn : 1 ≤ n) :
    Src.BitArray_fromlist old bits = .ok (Iso.bytesOfBits bits) := by
  have hne : bits.map Iso.b2n ≠ [] :=
    List.ne_nil_of_length_pos (by rw [List.length_map, h]; exact Nat.mul_pos (by decide) hn)
  have hlen : ((Rt.len ((bits.map Iso.b2n).map (48 + ·))) / (8 : Int)).toNat = n := by
    simp only [Rt.len, List.length_map, h]
    exact (Int.toNat_natCast (8 * n / 8)).trans (Nat.mul_div_cancel_left n (by decide))
  -- the digits read in base 2 fit `n` bytes, and the model's bytes ARE the base-256 digits of that number
  have hlt : fromDigits 2 (bits.map Iso.b2n) < 256 ^ n := by
    have := fromDigits_lt _ (b2n_lt bits)
    rwa [List.length_map, h, Nat.pow_mul] at this
  unfold Src.BitArray_fromlist
  simp only [join_bitchars, Rt.intBin, Pin.intBin_digits hne (b2n_lt bits), Outcome.bind, hlen, toBytes_nat, if_pos hlt,
    Iso.bytesOfBits_eq_digits n bits h]

theorem tolist_bytesOfBits (bits : List Bool) (n : Nat) (h : bits.length = 8 * n) (hn : 1 ≤ n) :
    Src.BitArray_tolist (Iso.bytesOfBits bits) = .ok bits := by
  have hl := Iso.bytesOfBits_length n bits h
  rw [tolist_eq _ (Iso.bytesOfBits_lt n bits h) (by intro e; rw [e] at hl; simp at hl; omega),
    Iso.bitsOfBytes_bytesOfBits n bits h]

/-- C01: any whole number of bytes of flags survives the translated `fromlist` followed by the translated `tolist` -/
theorem C01_source_bits_roundtrip (old : Bytes) (bits : List Bool) (n : Nat) (h : bits.length = 8 * n) (hn : 1 ≤ n) :
    Outcome.bind (Src.BitArray_fromlist old bits) (fun b => Src.BitArray_tolist b) = .ok bits := by
  rw [fromlist_eq old bits n h hn, bind_ok_eq, tolist_bytesOfBits bits n h hn]

/-- C02, bitmap clause, for the translated `fromlist`: the 128 presence flags become the model's 16-byte `bitmapOf` -/
theorem C02_source_bitmap (old : Bytes) (present : List Nat) :
    Src.BitArray_fromlist old (Iso.flagsOf present) = .ok (Iso.bitmapOf present) :=
  fromlist_eq old _ 16 (Iso.flagsOf_length _) (by decide)

/-- … and the translated `tolist` of that bitmap gives the flags back -/
theorem C02_source_bitmap_read (present : List Nat) :
    Src.BitArray_tolist (Iso.bitmapOf present) = .ok (Iso.flagsOf present) :=
  tolist_bytesOfBits _ 16 (Iso.flagsOf_length _) (by decide)

end Cardutil.SrcTie
