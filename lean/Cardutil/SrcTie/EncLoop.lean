import Cardutil.SrcTie.Bits
import Cardutil.SrcTie.RtLoops
import Cardutil.Gen.Src
/-
  Source tie for the ELEMENT LOOP and the ASSEMBLY of `iso8583._dict_to_iso8583` (C02): the function without its
  PDS-packing statements (the message is the one packing leaves), with the element encoder `_field_to_iso8583` as a
  PARAMETER (any function of its type) — what is proved is a fact about the loop as written.
-/
namespace Cardutil.SrcTie

open Cardutil Cardutil.Py

abbrev FieldEnc := Rt.BitCfg → Option Rt.AnyVal → (Text → Outcome Bytes) → Outcome Bytes

/-- the key `'DE' + str(bit)` -/
def deKey (bit : Int) : Text := [68, 69] ++ Rt.strOfInt bit

/-- the presence test of the loop: `message.get(k) or message.get(k) == 0` -/
def isPresent (message : Rt.SDict Rt.AnyVal) (bit : Int) : Bool :=
  Rt.truthyOpt (Rt.dictGetOpt message (deKey bit)) || Rt.eqZeroOpt (Rt.dictGetOpt message (deKey bit))

/-- the loop body as translated (state = presence flags and output so far) -/
def encStep (F : FieldEnc) (message : Rt.SDict Rt.AnyVal) (cfg : Rt.SDict Rt.BitCfg) (enc : Text → Outcome Bytes)
    (st : List Bool × Bytes) (bit : Int) : Outcome (List Bool × Bytes) :=
  if isPresent message bit then
    Outcome.bind (Rt.setItem st.1 (bit - 1) true) (fun flags =>
      Outcome.bind (Rt.dictGet cfg (Rt.strOfInt bit)) (fun t1 =>
        Outcome.bind (F t1 (Rt.dictGetOpt message (deKey bit)) enc) (fun t2 =>
          .ok (flags, st.2 ++ t2))))
  else .ok (st.1, st.2)

/-- the MTI bytes as the last statements compute them -/
def mtiOf (message : Rt.SDict Rt.AnyVal) (enc : Text → Outcome Bytes) : Outcome Bytes :=
  if Rt.truthyOpt (Rt.dictGetOpt message [77, 84, 73]) then
    Outcome.bind (Rt.dictGet message [77, 84, 73]) (fun t => Outcome.bind (Rt.anyEncode enc t) (fun b => .ok b))
  else .ok []

theorem enc_unfold (F : FieldEnc) (message : Rt.SDict Rt.AnyVal) (cfg : Rt.SDict Rt.BitCfg) (enc : Text → Outcome Bytes)
    (hex : Bool) :
    Src._dict_to_iso8583_loop F message cfg enc hex =
      Outcome.bind (Rt.setItem (Rt.mulSeq [false] (128 : Int)) 0 true) (fun flags0 =>
        Outcome.bind (Rt.forO (encStep F message cfg enc) (Rt.range 2 129) (flags0, [])) (fun st =>
          Outcome.bind (Src.BitArray_fromlist [] st.1) (fun bm =>
            Outcome.bind (mtiOf message enc) (fun mti =>
              .ok ((mti ++ (if hex then Rt.hexlify bm else bm)) ++ st.2))))) := by
  unfold Src._dict_to_iso8583_loop
  cases hex <;> rfl

/-- "the present elements among `bs` are rendered one after the other onto `out`" -/
inductive Emits (F : FieldEnc) (message : Rt.SDict Rt.AnyVal) (cfg : Rt.SDict Rt.BitCfg) (enc : Text → Outcome Bytes) :
    List Int → Bytes → Bytes → Prop
  | nil (out) : Emits F message cfg enc [] out out
  | cons (b bs out f r out') :
      Rt.dictGet cfg (Rt.strOfInt b) = .ok f →
      F f (Rt.dictGetOpt message (deKey b)) enc = .ok r →
      Emits F message cfg enc bs (out ++ r) out' →
      Emits F message cfg enc (b :: bs) out out'

def setAll (flags : List Bool) (ps : List Int) : List Bool := ps.foldl (fun fl b => fl.set (b - 1).toNat true) flags

theorem setAll_length (flags : List Bool) (ps : List Int) : (setAll flags ps).length = flags.length := by
  unfold setAll
  induction ps generalizing flags with
  | nil => rfl
  | cons p ps ih => simp only [List.foldl_cons]; rw [ih]; simp

theorem emits_cons_iff {F : FieldEnc} {message : Rt.SDict Rt.AnyVal} {cfg : Rt.SDict Rt.BitCfg} {enc : Text → Outcome Bytes}
    {b : Int} {bs : List Int} {out out' : Bytes} :
    Emits F message cfg enc (b :: bs) out out' ↔ ∃ f, Rt.dictGet cfg (Rt.strOfInt b) = .ok f ∧ ∃ r,
      F f (Rt.dictGetOpt message (deKey b)) enc = .ok r ∧ Emits F message cfg enc bs (out ++ r) out' :=
  ⟨fun h => by cases h with | cons _ _ _ f r _ h1 h2 h3 => exact ⟨f, h1, r, h2, h3⟩,
   fun ⟨f, h1, r, h2, h3⟩ => .cons b bs out f r out' h1 h2 h3⟩

/-- one pass of the loop followed by `P`: a present element has its flag set, is looked up and rendered first -/
theorem encStep_then (F : FieldEnc) (message : Rt.SDict Rt.AnyVal) (cfg : Rt.SDict Rt.BitCfg) (enc : Text → Outcome Bytes)
    (b : Int) (flags : List Bool) (out : Bytes) (P : List Bool × Bytes → Prop) (h1 : 1 ≤ b) (h2 : (b - 1).toNat < flags.length) :
    (∃ st, encStep F message cfg enc (flags, out) b = .ok st ∧ P st) ↔
      if isPresent message b then ∃ f, Rt.dictGet cfg (Rt.strOfInt b) = .ok f ∧ ∃ r,
        F f (Rt.dictGetOpt message (deKey b)) enc = .ok r ∧ P (flags.set (b - 1).toNat true, out ++ r)
      else P (flags, out) := by
  simp only [encStep, setItem_in flags (b - 1) true (Int.sub_nonneg_of_le h1) h2, bind_ok_eq,
    apply_ite (fun x => ∃ st, x = Outcome.ok st ∧ P st), exists_bind_eq_ok, exists_ok_eq]

/-- the translated loop over any list of element numbers returns exactly when the present ones are configured and
    rendered, in the order of the list -/
theorem forO_emits (F : FieldEnc) (message : Rt.SDict Rt.AnyVal) (cfg : Rt.SDict Rt.BitCfg) (enc : Text → Outcome Bytes) :
    ∀ (bs : List Int) (flags : List Bool) (out : Bytes) (flags' : List Bool) (out' : Bytes),
      (∀ b ∈ bs, 1 ≤ b ∧ (b - 1).toNat < flags.length) →
      (Rt.forO (encStep F message cfg enc) bs (flags, out) = .ok (flags', out') ↔
        (Emits F message cfg enc (bs.filter (isPresent message)) out out' ∧
         flags' = setAll flags (bs.filter (isPresent message)))) := by
  intro bs
  induction bs with
  | nil =>
    intro flags out flags' out' _
    rw [forO_nil_eq_ok]
    exact ⟨fun h => by cases h; exact ⟨.nil _, rfl⟩, fun ⟨h, hf⟩ => by cases h; subst hf; rfl⟩
  | cons b bs ih =>
    intro flags out flags' out' hin
    have hb := hin b List.mem_cons_self
    have ih := fun (fl : List Bool) (hl : fl.length = flags.length) out =>
      ih fl out flags' out' (fun x hx => hl ▸ hin x (List.mem_cons_of_mem _ hx))
    rw [forO_cons_eq_ok, encStep_then F message cfg enc b flags out _ hb.1 hb.2, List.filter_cons]
    cases isPresent message b with
    | true =>
      -- the equation for the flags mentions neither witness and moves out of the quantifiers; `setAll` sets `b` first
      simp only [↓reduceIte, ih _ (List.length_set ..), emits_cons_iff, ← and_assoc, exists_and_right]
      rfl
    | false => exact ih flags rfl out

/-- the element numbers 2..128 present in the message, ascending -/
def presentBits (message : Rt.SDict Rt.AnyVal) : List Int := (Rt.range 2 129).filter (isPresent message)

theorem range_bounds1 : ∀ b ∈ Rt.range 2 129, (1 : Int) ≤ b ∧ (b - 1).toNat < 128 := fun b hb => by
  have := mem_rtRange.mp hb; omega

theorem flags0_eq : Rt.setItem (Rt.mulSeq [false] (128 : Int)) 0 true = .ok (true :: List.replicate 127 false) := by
  rw [mulSeq_single, setItem_in _ 0 true (Int.le_refl 0) (by rw [List.length_replicate]; decide)]
  rfl

/-- the flags the loop leaves: bit 1 on, bit n on exactly when element n is present -/
theorem setAll_get (ps : List Int) (hps : ∀ b ∈ ps, 1 ≤ b) :
    ∀ (flags : List Bool) (i : Nat) (hi : i < flags.length),
      (setAll flags ps)[i]'(by rw [setAll_length]; exact hi) = (flags[i] || ps.any (fun b => (b - 1).toNat == i)) := by
  induction ps with
  | nil => intro flags i hi; exact (Bool.or_false _).symm
  | cons p ps ih =>
    intro flags i hi
    have := ih (fun b hb => hps b (List.mem_cons_of_mem _ hb)) (flags.set (p - 1).toNat true) i
      (by rw [List.length_set]; exact hi)
    refine this.trans ?_
    rw [List.getElem_set, List.any_cons]
    by_cases hpi : (p - 1).toNat = i
    · rw [if_pos hpi, beq_iff_eq.mpr hpi, Bool.true_or, Bool.or_true]
    · rw [if_neg hpi, beq_false_of_ne hpi, Bool.false_or]

/-- C02 for the loop and assembly as translated: whenever the function returns, the bytes are the MTI, then the bitmap
    (16 bytes, or their 32 lowercase hex characters) of the flags "bit 1, and bit n iff element n is present", then the
    present elements 2..128 in ascending order, each as the element encoder rendered it -/
theorem C02_source_loop_layout (F : FieldEnc) (message : Rt.SDict Rt.AnyVal) (cfg : Rt.SDict Rt.BitCfg)
    (enc : Text → Outcome Bytes) (hex : Bool) (out : Bytes)
    (h : Src._dict_to_iso8583_loop F message cfg enc hex = .ok out) :
    ∃ mti body flags,
      mtiOf message enc = .ok mti ∧
      Emits F message cfg enc (presentBits message) [] body ∧
      flags.length = 128 ∧
      (∀ i (hi : i < flags.length), flags[i] = (i == 0 || (presentBits message).any (fun b => (b - 1).toNat == i))) ∧
      out = (mti ++ (if hex then Rt.hexlify (Iso.bytesOfBits flags) else Iso.bytesOfBits flags)) ++ body := by
  simp only [enc_unfold, flags0_eq, bind_ok_eq, Outcome.bind_eq_ok] at h
  obtain ⟨⟨flags', body⟩, hl, bm, hbm, mti, hm, h⟩ := h
  have h128 : (true :: List.replicate 127 false).length = 128 := by rw [List.length_cons, List.length_replicate]
  obtain ⟨hem, rfl⟩ := (forO_emits F message cfg enc _ _ [] flags' body (h128 ▸ range_bounds1)).mp hl
  have hlen := (setAll_length _ (presentBits message)).trans h128
  cases (fromlist_eq [] _ 16 hlen (by decide)).symm.trans hbm
  cases h
  refine ⟨mti, body, _, hm, hem, hlen, fun i hi => ?_, rfl⟩
  rw [setAll_get (presentBits message) (fun b hb => (range_bounds1 b (List.mem_filter.mp hb).1).1) _ i (by rw [← setAll_length]; exact hi)]
  cases i with
  | zero => rfl
  | succ k => rw [List.getElem_cons_succ, List.getElem_replicate]; rfl

/-- what `Emits` says about the body: it is the concatenation of the renderings, in the order of the list -/
theorem emits_concat {F : FieldEnc} {message : Rt.SDict Rt.AnyVal} {cfg : Rt.SDict Rt.BitCfg} {enc : Text → Outcome Bytes} :
    ∀ {bs : List Int} {out out' : Bytes}, Emits F message cfg enc bs out out' →
      ∃ parts : List Bytes, parts.length = bs.length ∧ out' = out ++ parts.flatten := by
  intro bs out out' h
  induction h with
  | nil => exact ⟨[], rfl, by simp⟩
  | cons _ _ _ _ r _ _ _ _ ih =>
    obtain ⟨parts, hl, hs⟩ := ih
    exact ⟨r :: parts, by simp [hl], by rw [hs]; simp⟩

theorem any_pred_contains (i : Nat) (ps : List Int) (hps : ∀ b ∈ ps, 1 ≤ b) :
    ps.any (fun b => (b - 1).toNat == i) = (ps.map Int.toNat).contains (i + 1) := by
  induction ps with
  | nil => rfl
  | cons p ps ih =>
    -- `p = n + 1` for a natural `n`, which leaves no `toNat` to reason about
    obtain ⟨n, hn⟩ := Int.eq_ofNat_of_zero_le (Int.sub_nonneg_of_le (hps p List.mem_cons_self))
    rw [List.any_cons, List.map_cons, List.contains_cons, ih (fun b hb => hps b (List.mem_cons_of_mem _ hb)), hn,
      Int.sub_eq_iff_eq_add.mp hn, Int.toNat_natCast, Int.toNat_natCast_add_one]
    congr 1
    rw [Bool.eq_iff_iff, beq_iff_eq, beq_iff_eq, Nat.add_right_cancel_iff, eq_comm]

/-- the flags of `C02_source_loop_layout` are the model's `flagsOf` of the present element numbers, so the 16 bitmap
    bytes are the model's `bitmapOf` -/
theorem flags_eq_flagsOf (flags : List Bool) (ps : List Int) (hps : ∀ b ∈ ps, 1 ≤ b) (hl : flags.length = 128)
    (h : ∀ i (hi : i < flags.length), flags[i] = (i == 0 || ps.any (fun b => (b - 1).toNat == i))) :
    flags = Iso.flagsOf (ps.map Int.toNat) := by
  apply List.ext_getElem
  · rw [hl, Iso.flagsOf_length]
  · intro i h1 h2
    rw [h i h1]
    simp only [Iso.flagsOf, List.getElem_map, List.getElem_range]
    rw [any_pred_contains i ps hps]

/-- `C02_source_loop_layout` in the model's terms, for both bitmap forms: the 16 bitmap bytes are `Iso.bitmapOf` of the present
    element numbers -/
theorem loop_bitmapOf (F : FieldEnc) (message : Rt.SDict Rt.AnyVal) (cfg : Rt.SDict Rt.BitCfg)
    (enc : Text → Outcome Bytes) (hex : Bool) (out : Bytes)
    (h : Src._dict_to_iso8583_loop F message cfg enc hex = .ok out) :
    ∃ mti body, mtiOf message enc = .ok mti ∧ Emits F message cfg enc (presentBits message) [] body ∧
      out = (mti ++ (if hex then Rt.hexlify (Iso.bitmapOf ((presentBits message).map Int.toNat))
        else Iso.bitmapOf ((presentBits message).map Int.toNat))) ++ body := by
  obtain ⟨mti, body, flags, hm, he, hl, hf, ho⟩ := C02_source_loop_layout F message cfg enc hex out h
  have hps : ∀ b ∈ presentBits message, 1 ≤ b := fun b hb => (range_bounds1 b (List.mem_filter.mp hb).1).1
  rw [flags_eq_flagsOf flags (presentBits message) hps hl hf, ← Iso.bitmapOf_eq] at ho
  exact ⟨mti, body, hm, he, ho⟩

/-- C02 for the loop and assembly as translated, in the model's terms: the bitmap bytes are `Iso.bitmapOf` of the present
    element numbers -/
theorem C02_source_loop_bitmapOf (F : FieldEnc) (message : Rt.SDict Rt.AnyVal) (cfg : Rt.SDict Rt.BitCfg)
    (enc : Text → Outcome Bytes) (out : Bytes)
    (h : Src._dict_to_iso8583_loop F message cfg enc false = .ok out) :
    ∃ mti body, mtiOf message enc = .ok mti ∧ Emits F message cfg enc (presentBits message) [] body ∧
      out = (mti ++ Iso.bitmapOf ((presentBits message).map Int.toNat)) ++ body :=
  loop_bitmapOf F message cfg enc false out h

end Cardutil.SrcTie
