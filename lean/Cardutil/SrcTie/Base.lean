import Cardutil.Py.Rt
/-
  The SOURCE TIE: `Gen/Src.lean` is the translation of the current Python text of /repo
  (harness/pytrans.py, re-run on every check); the theorems of the SrcTie modules say that each translated function
  IS the hand-written model the property theorems speak about — for all inputs, not for samples.
  When the source changes so that one of them no longer checks, the checks escalate their search
  (the behavioural correspondence remains the deciding tie).
  This file: what those modules share about `Py/Rt.lean` (slices, `bytes * n`, `str` of a digit, string literals).
-/
namespace Cardutil.SrcTie

open Cardutil Cardutil.Py

/-! Slices, by the kind of bound: the cast of a natural (`slice_nn`, `slice_nat`, `slice_to_nat`, `slice_from_nat`,
`slice_eq`); an integer that is not negative (`slice_py`, `slice_mid`, `slice_to`, `slice_from`, `slice_0_to`, `slice_add`);
a negative integer (`slice_from_neg`, `slice_neg_neg`).  `slice_nn` and `slice_py` answer with the model's `Py.slice`, the
others with `take` and `drop`.
A literal bound such as `(1012 : Int)` is not syntactically a cast: use the integer forms with `(by decide)`, or
state the lemma for a variable `(P : Nat)` and let `rfl` put the literal in. -/

theorem bound_nat (len a : Nat) : Rt.bound len (a : Int) = min a len := by
  unfold Rt.bound
  rw [if_neg (by omega)]
  rfl

theorem bound_neg (len : Nat) (i : Int) (h : i < 0) : Rt.bound len i = len - (-i).toNat := by
  unfold Rt.bound
  rw [if_pos h, ← Int.toNat_sub, Int.toNat_of_nonneg (Int.neg_nonneg_of_nonpos (Int.le_of_lt h)), Int.sub_neg]

theorem take_drop_min {α} (l : List α) (a b : Nat) :
    (l.take (min b l.length)).drop (min a l.length) = (l.take b).drop a := by
  -- neither `take` nor `drop` sees a bound beyond the length, and the prefix taken is no longer than `l`
  rw [← List.take_eq_take_min, List.drop_eq_drop_iff, List.length_take, Nat.min_assoc,
    Nat.min_eq_right (Nat.min_le_right b l.length)]

theorem slice_nn {α} (l : List α) (a b : Nat) :
    Rt.slice l (some ((a : Nat) : Int)) (some ((b : Nat) : Int)) = Py.slice l a b := by
  simp only [Rt.slice, bound_nat, take_drop_min, Py.slice]

theorem slice_nat {α} (l : List α) (a b : Nat) :
    Rt.slice l (some (a : Int)) (some (b : Int)) = (l.drop a).take (b - a) := by
  rw [slice_nn, Py.slice, List.drop_take]

theorem slice_to_nat {α} (l : List α) (b : Nat) : Rt.slice l none (some (b : Int)) = l.take b := by
  have := take_drop_min l 0 b
  simp only [Nat.zero_min, List.drop_zero] at this
  simp only [Rt.slice, bound_nat, List.drop_zero, this]

theorem slice_from_nat {α} (l : List α) (a : Nat) : Rt.slice l (some (a : Int)) none = l.drop a := by
  have := take_drop_min l a l.length
  simp only [Nat.min_self, List.take_length] at this
  simp only [Rt.slice, bound_nat, List.take_length, this]

theorem slice_to {α} (l : List α) (i : Int) (h : 0 ≤ i) : Rt.slice l none (some i) = l.take i.toNat := by
  obtain ⟨n, rfl⟩ := Int.eq_ofNat_of_zero_le h
  exact slice_to_nat l n

theorem slice_from {α} (l : List α) (i : Int) (h : 0 ≤ i) : Rt.slice l (some i) none = l.drop i.toNat := by
  obtain ⟨n, rfl⟩ := Int.eq_ofNat_of_zero_le h
  exact slice_from_nat l n

/-- `simp (disch := decide) only [slice_py, Int.reduceToNat]` turns the literal bounds of translated code into the
    model's `slice` -/
theorem slice_py {α} (l : List α) (i j : Int) (hi : 0 ≤ i) (hj : 0 ≤ j) :
    Rt.slice l (some i) (some j) = Py.slice l i.toNat j.toNat := by
  obtain ⟨a, rfl⟩ := Int.eq_ofNat_of_zero_le hi
  obtain ⟨b, rfl⟩ := Int.eq_ofNat_of_zero_le hj
  exact slice_nn l a b

theorem slice_mid {α} (l : List α) (i j : Int) (hi : 0 ≤ i) (hj : 0 ≤ j) :
    Rt.slice l (some i) (some j) = (l.drop i.toNat).take (j.toNat - i.toNat) := by
  rw [slice_py l i j hi hj, Py.slice, List.drop_take]

theorem slice_0_to {α} (l : List α) (i : Int) (h : 0 ≤ i) : Rt.slice l (some 0) (some i) = l.take i.toNat :=
  slice_mid l 0 i (Int.le_refl 0) h

/-! The translated walkers slice at `field_pointer + 4`, `field_pointer + 7 + n`, …: name the two naturals and `omega`
checks that the bounds are their casts. -/

theorem slice_eq {α} {l : List α} (i j : Int) (a n : Nat) (hi : i = a := by omega) (hj : j = a + n := by omega) :
    Rt.slice l (some i) (some j) = (l.drop a).take n := by
  subst hi hj
  rw [← Int.natCast_add, slice_nat, Nat.add_sub_cancel_left]

/-- `l[i : i + n]` -/
theorem slice_add {α} (l : List α) (i : Int) (n : Nat) (h : 0 ≤ i) :
    Rt.slice l (some i) (some (i + (n : Int))) = (l.drop i.toNat).take n := by
  obtain ⟨a, rfl⟩ := Int.eq_ofNat_of_zero_le h
  exact slice_eq _ _ a n rfl rfl

theorem slice_from_neg {α} (l : List α) (i : Int) (h : i < 0) :
    Rt.slice l (some i) none = l.drop (l.length - (-i).toNat) := by
  simp only [Rt.slice, bound_neg _ _ h, List.take_length]

theorem slice_neg_neg {α} (l : List α) (i j : Int) (hi : i < 0) (hj : j < 0) :
    Rt.slice l (some i) (some j) = (l.take (l.length - (-j).toNat)).drop (l.length - (-i).toNat) := by
  simp only [Rt.slice, bound_neg _ _ hi, bound_neg _ _ hj]

theorem mulSeq_single {α} (x : α) (n : Int) : Rt.mulSeq [x] n = List.replicate n.toNat x := by
  unfold Rt.mulSeq
  induction n.toNat with
  | zero => rfl
  | succ k ih => simp [List.replicate_succ, ih]

theorem strOfInt_digit (n : Nat) (h : n < 10) : Rt.strOfInt (n : Int) = [48 + n] := by
  show fmtNat 0 n = _
  rw [fmtNat, if_neg (fun h => Nat.lt_irrefl 0 h.1), natDigits, if_pos h]

/-- `rw [lit_ofList]` matches a literal up to unfolding (`simp only` does not); `decide` or `rfl` on `Rt.lit "…"`
    run the UTF-8 decoder, which is much slower to check -/
theorem lit_ofList (cs : List Char) : Rt.lit (String.ofList cs) = cs.map Char.toNat := by
  rw [Rt.lit, String.toList_ofList]

theorem lit_injective {s s' : String} (h : Rt.lit s = Rt.lit s') : s = s' :=
  String.toList_injective ((List.map_inj_right fun _ _ => Char.toNat_inj.mp).mp h)

theorem bind_escape_eq {α β} (k : ExcKind) (f : α → Outcome β) : (Outcome.escape k : Outcome α).bind f = .escape k := rfl

end Cardutil.SrcTie
