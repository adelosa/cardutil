import Cardutil.SrcTie.RtLoops
import Cardutil.SrcTie.SDict
import Cardutil.Gen.Src
import Cardutil.Props.C07
import Cardutil.Lemmas.Pds
import Cardutil.Lemmas.Bitmap
/-
  Source tie for the PDS / ICC walkers and the PDS packer of `cardutil/iso8583.py`
  (`_pds_to_dict`, `_icc_to_dict`, `_pds_to_de`): the translated loops ARE the models
  `Iso.pdsToDict`, `Iso.iccToDict`, `Iso.pdsPack` (C07, C08, C12).  A translated `while` takes a
  fuel argument; the equalities hold for every amount of fuel, the model's own fuel included.
-/
namespace Cardutil.SrcTie

open Cardutil Cardutil.Py Cardutil.Iso

/-- the translated dictionary (keys 'PDS' + tag, text values) as the model's dictionary -/
def toDictP (d : Rt.SDict Text) : Dict := d.map (fun kv => (Key.pds (kv.1.drop 3), Val.str kv.2))

theorem dictSet_map {β} (κ : Text → Key) (φ : β → Val) (d : Rt.SDict β) (k : Text) (v : β)
    (h : ∀ kv ∈ d, κ kv.1 = κ k → kv.1 = k) :
    (Rt.dictSet d k v).map (fun kv => (κ kv.1, φ kv.2)) = Dict.set (d.map (fun kv => (κ kv.1, φ kv.2))) (κ k) (φ v) := by
  fun_induction Rt.dictSet d k v with
  | case1 => rfl
  | case2 k' v' rest k v hk => simp [Dict.set, beq_iff_eq.mp hk]
  | case3 k' v' rest k v hk ih =>
    have : ¬ κ k' = κ k := fun e => hk (beq_iff_eq.mpr (h _ List.mem_cons_self e))
    simp [Dict.set, this, ih fun x hx => h x (List.mem_cons_of_mem _ hx)]

/-- the walk's invariant: every key is 'PDS' + a tag, so `toDictP` keeps distinct keys distinct -/
def AllPds (d : Rt.SDict Text) : Prop := ∀ kv ∈ d, ∃ tag, kv.1 = [80, 68, 83] ++ tag

theorem dictSet_pds (d : Rt.SDict Text) (tag v : Text) (h : AllPds d) :
    toDictP (Rt.dictSet d ([80, 68, 83] ++ tag) v) = Dict.set (toDictP d) (.pds tag) (.str v) := by
  refine dictSet_map (fun k => .pds (k.drop 3)) .str d _ v fun kv hkv hk => ?_
  obtain ⟨tag', e⟩ := h kv hkv
  rw [e] at hk ⊢
  rw [show tag' = tag from Key.pds.inj hk]

/-- the `while` of `_pds_to_dict`, whatever the text of its condition and body: `hc` and `hb` say what one round does at
    pointer `p`, in the terms of the model's walk over `t.drop p` -/
theorem pds_loop (t : Text) {c : Rt.SDict Text × Int → Bool} {b : Rt.SDict Text × Int → Outcome (Bool × (Rt.SDict Text × Int))}
    (hc : ∀ rv (p : Nat), c (rv, p) = !(t.drop p).isEmpty)
    (hb : ∀ rv (p : Nat), b (rv, p) = match pyInt Gen.intClasses ((t.drop (p + 4)).take 3) with
      | some (.ofNat n) =>
        .ok (true, (Rt.dictSet rv ([80, 68, 83] ++ (t.drop p).take 4) ((t.drop (p + 7)).take n), ((p + (7 + n) : Nat) : Int)))
      | _ => .escape .valueError)
    (fuel : Nat) (rv : Rt.SDict Text) (p : Nat) (hrv : AllPds rv) :
    (Rt.whileO fuel c b (rv, (p : Int))).bind (fun st => .ok (toDictP st.1)) =
      pdsWalk Gen.intClasses fuel (t.drop p) (toDictP rv) := by
  induction fuel generalizing rv p with
  | zero => rfl
  | succ fuel ih =>
    rw [Rt.whileO, pdsWalk, hc, hb]
    simp only [List.drop_drop]
    cases (t.drop p).isEmpty with
    | true => rfl
    | false =>
      rcases pyInt Gen.intClasses ((t.drop (p + 4)).take 3) with _ | n | k
      · rfl
      · dsimp only
        rw [← dictSet_pds rv _ _ hrv, ← ih _ (p + (7 + n)) (forall_dictSet hrv ⟨_, rfl⟩)]
        rfl
      · rfl

/-- `_pds_to_dict`: for every amount of fuel the translated walk is the model's walk with that fuel;
    in particular with the model's own `len + 1` it is `pdsToDict`, which never diverges (C07) -/
theorem pds_to_dict_eq (fuel : Nat) (t : Text) :
    (Src._pds_to_dict fuel t).bind (fun d => .ok (toDictP d)) = pdsWalk Gen.intClasses fuel t [] := by
  refine (Outcome.bind_assoc _ _ _).trans
    (pds_loop t (fun _ p => ptr_lt_len t p) (fun rv p => ?_) fuel [] 0 (fun _ h => nomatch h))
  -- one round of the generated body: its three slices are `t[p:p+4]`, `t[p+4:p+7]`, `t[p+7:p+7+n]`; the casts in their
  -- bounds compute, so `rfl` gives `slice_eq` its side conditions (`omega`, its default, is slow to check)
  simp only [Rt.intOfStr, slice_eq (p + 4) (p + 7) (p + 4) 3 rfl rfl, slice_eq p (p + 4) p 4 rfl rfl]
  rcases pyInt Gen.intClasses ((t.drop (p + 4)).take 3) with _ | n | k
  · rfl
  · rw [bind_ok_eq, if_neg (by simp), Int.ofNat_eq_natCast, slice_eq (p + 7) (p + 7 + n) (p + 7) n rfl rfl]
    rfl
  · simp [Outcome.bind, Int.negSucc_lt_zero]

/-- keys 'ICC_DATA' and 'TAG' + hex as the model's keys -/
def keyI (k : Text) : Key := if k == [73, 67, 67, 95, 68, 65, 84, 65] then .iccData else .tag (k.drop 3)

def toDictI (d : Rt.SDict Text) : Dict := d.map (fun kv => (keyI kv.1, Val.str kv.2))

/-- the walk's invariant: every key is 'ICC_DATA' or 'TAG' + hex, so `toDictI` keeps distinct keys distinct -/
def AllIcc (d : Rt.SDict Text) : Prop :=
  ∀ kv ∈ d, kv.1 = [73, 67, 67, 95, 68, 65, 84, 65] ∨ ∃ h, kv.1 = [84, 65, 71] ++ h

theorem keyI_tag (h : Text) : keyI ([84, 65, 71] ++ h) = .tag h := by
  simp [keyI]

theorem dictSet_icc (d : Rt.SDict Text) (h v : Text) (hd : AllIcc d) :
    toDictI (Rt.dictSet d ([84, 65, 71] ++ h) v) = Dict.set (toDictI d) (.tag h) (.str v) := by
  refine keyI_tag h ▸ dictSet_map keyI .str d _ v fun kv hkv hk => ?_
  rw [keyI_tag] at hk
  rcases hd kv hkv with e | ⟨h', e⟩ <;> rw [e] at hk ⊢
  · cases hk
  · rw [keyI_tag] at hk; rw [Key.tag.inj hk]

theorem upper_hexDigit : ∀ a, a < 16 →
    (if 97 ≤ Rt.hexDigitLower a ∧ Rt.hexDigitLower a ≤ 122 then Rt.hexDigitLower a - 32 else Rt.hexDigitLower a) =
      hexUpperDigit a := by decide

theorem upper_hexlify (b : Bytes) : Rt.upperAscii (Rt.hexlify b) = hexTextUpper b := by
  simp only [Rt.upperAscii, Rt.hexlify, hexTextUpper, List.map_flatMap, List.map_cons, List.map_nil,
    upper_hexDigit _ (Nat.mod_lt _ (by decide : 0 < 16))]

/-- `hexlify` is injective on bytes (it has `unhexlify` for inverse): only x'00' is shown as '00' -/
theorem hexlify_eq_zero (tag : Bytes) (h : ∀ x ∈ tag, x < 256) : (Rt.hexlify tag == [48, 48]) = (tag == [0]) := by
  rw [Bool.eq_iff_iff, beq_iff_eq, beq_iff_eq]
  refine ⟨fun h0 => ?_, fun h0 => by rw [h0]; rfl⟩
  have := Iso.unhexlify_hexlify tag h
  rw [show Iso.hexlify tag = Rt.hexlify tag from rfl, h0] at this
  exact (Option.some.inj this).symm

/-- how many bytes the tag at the head of the remaining data takes, by the loop's own test -/
def tagWidth (t : Bytes) : Nat := if List.contains [[159], [95]] (t.take 1) then 2 else 1

theorem tagWidth_cons (t0 : Nat) (rest : Bytes) : tagWidth (t0 :: rest) = if isTwoByteTag t0 then 2 else 1 := by
  simp [tagWidth, isTwoByteTag, or_comm]

theorem iccTag_eq (t : Bytes) : iccTag t = t.take (tagWidth t) := by
  cases t with
  | nil => rfl
  | cons t0 rest => rw [iccTag, tagWidth_cons]; split <;> rfl

theorem iccAfter_eq (t : Bytes) : iccAfter t = t.drop (tagWidth t) := by
  cases t with
  | nil => rfl
  | cons t0 rest => rw [iccAfter, tagWidth_cons]; split <;> rfl

/-- what the generated loop body does once the tag and the pointer behind it are known: the text its two branches (two-byte
    tag, one-byte tag) share; '00' as tag ends the walk -/
def iccStep (b : Bytes) (tag : Bytes) (p : Int) (rv : Rt.SDict Text) : Outcome (Bool × (Int × Rt.SDict Text)) :=
  if Rt.hexlify tag == [48, 48] then .ok (false, (p, rv))
  else Outcome.bind (Rt.unpackB (Rt.slice b (some p) (some (p + 1)))) (fun n =>
    .ok (true, (p + (1 + n),
      Rt.dictSet rv ([84, 65, 71] ++ Rt.upperAscii (Rt.hexlify tag)) (Rt.hexlify (Rt.slice b (some (p + 1)) (some (p + n + 1)))))))

/-- the `while` of `_icc_to_dict`, whatever the text of its condition and body: `hc` and `hb` say what one round does at
    pointer `p` — the step `iccStep` at the tag of width `tagWidth` -/
theorem icc_loop (d : Bytes) (hd : ∀ x ∈ d, x < 256) {c : Int × Rt.SDict Text → Bool}
    {b : Int × Rt.SDict Text → Outcome (Bool × (Int × Rt.SDict Text))}
    (hc : ∀ (p : Nat) rv, c (p, rv) = !(d.drop p).isEmpty)
    (hb : ∀ (p : Nat) rv, b (p, rv) =
      iccStep d ((d.drop p).take (tagWidth (d.drop p))) ((p : Int) + (tagWidth (d.drop p) : Nat)) rv)
    (fuel : Nat) (rv : Rt.SDict Text) (p : Nat) (hrv : AllIcc rv) :
    (Rt.whileO fuel c b ((p : Int), rv)).bind (fun st => .ok (toDictI st.2)) = iccWalk fuel (d.drop p) (toDictI rv) := by
  induction fuel generalizing rv p with
  | zero => rfl
  | succ fuel ih =>
    rw [Rt.whileO, iccWalk, hc, hb]
    cases (d.drop p).isEmpty with
    | true => rfl
    | false =>
      rw [iccTag_eq, iccAfter_eq, iccStep, List.drop_drop,
        hexlify_eq_zero _ fun x hx => hd x (List.mem_of_mem_drop (List.mem_of_mem_take hx))]
      generalize tagWidth (d.drop p) = w
      cases (d.drop p).take w == [0] with
      | true => rfl
      | false =>
        simp only [Bool.not_false, if_true, Bool.false_eq_true, if_false, slice_eq (p + w) (p + w + 1) (p + w) 1 rfl rfl]
        cases hdrop : d.drop (p + w) with
        | nil => rfl
        | cons len body =>
          have hbody : d.drop (p + w + 1) = body := by rw [← List.drop_drop, hdrop]; rfl
          simp only [List.take_succ_cons, List.take_zero, Rt.unpackB, bind_ok_eq, if_true,
            slice_eq (p + w + 1) (p + w + len + 1) (p + w + 1) len rfl (Int.add_right_comm ..), hbody]
          rw [← upper_hexlify, ← dictSet_icc rv _ _ hrv, ← hbody, List.drop_drop, Nat.add_assoc (p + w),
            ← ih _ (p + w + (1 + len)) (forall_dictSet hrv (.inr ⟨_, rfl⟩))]
          rfl

/-- `_icc_to_dict` over bytes: for every amount of fuel the translated TLV walk is the model's -/
theorem icc_to_dict_eq (fuel : Nat) (b : Bytes) (hb : ∀ x ∈ b, x < 256) :
    (Src._icc_to_dict fuel b).bind (fun d => .ok (toDictI d)) =
      iccWalk fuel b [(.iccData, .str (hexTextLower b))] := by
  refine (Outcome.bind_assoc _ _ _).trans (icc_loop b hb (fun p _ => ptr_lt_len b p) (fun p rv => ?_) fuel _ 0
    (fun kv h => .inl (by rw [List.mem_singleton.mp h])))
  -- the two branches of the generated body differ in the width of the tag only
  dsimp only
  rw [slice_eq p (p + 1) p 1 rfl rfl, slice_eq p (p + 2) p 2 rfl rfl, tagWidth]
  cases List.contains [[159], [95]] ((b.drop p).take 1) <;> rfl

/-- the sorted PDS keys the loop runs over (`.map (fun key => key)` is the comprehension's `key for key in …`) -/
def deKeys (d : Rt.SDict Text) : List Text :=
  Rt.sortedStr ((List.filter (fun key => Rt.startsWith key [80, 68, 83]) (Rt.dictKeys d)).map (fun key => key))

/-- one sub-element as the loop builds it: `f'{tag:04}{length:03}{value}'` with `int(key[3:])` and `d[key]` -/
def deEntry (d : Rt.SDict Text) (key : Text) : Outcome Text :=
  Outcome.bind (Rt.intOfStr Gen.intClasses (Rt.slice key (some 3) none)) (fun tag =>
    Outcome.bind (Rt.dictGet d key) (fun v => .ok (pdsEntry tag v)))

def packStep (st : List Text × Text) (e : Text) : List Text × Text :=
  if 999 < (st.2 ++ e).length then (st.1 ++ [st.2], e) else (st.1, st.2 ++ e)

def packFinish (st : List Text × Text) : List Text := if !st.2.isEmpty then st.1 ++ [st.2] else st.1

theorem pack_fold (es : List Text) (outs : List Text) (cur : Text) :
    packFinish (es.foldl packStep (outs, cur)) = outs ++ pdsPack es cur := by
  fun_induction pdsPack es cur generalizing outs with
  | case1 | case2 => simp_all [packFinish]
  | case3 e es cur h ih => rw [List.foldl_cons, packStep, if_pos h, ih]; simp
  | case4 e es cur h ih => rw [List.foldl_cons, packStep, if_neg h, ih]

/-- `_pds_to_de`: the translated loop over the sorted keys is the model's greedy packer `pdsPack`
    applied to the sub-elements `tag(4) length(3) value` in that order (C12: capacity, no split,
    order) — and it fails exactly when building a sub-element fails (`int(key[3:])`) -/
theorem pds_to_de_eq (d : Rt.SDict Text) :
    Src._pds_to_de d = (Outcome.mapO (deEntry d) (deKeys d)).bind (fun es => .ok (pdsPack es [])) := by
  show (Rt.forO _ (deKeys d) ([], [])).bind (fun st => if !st.2.isEmpty then .ok (st.1 ++ [st.2]) else .ok st.1) = _
  rw [forO_eq_mapO_foldl (deEntry d) packStep fun st key => ?_, Outcome.bind_assoc]
  · refine congrArg _ (funext fun es => ?_)
    rw [bind_ok_eq, ← List.nil_append (pdsPack es []), ← pack_fold es [] [], packFinish]
    exact (apply_ite Outcome.ok ..).symm
  · -- one pass of the loop body: `d[key]` is looked up twice, the packing step is `packStep`
    simp only [deEntry, Outcome.bind_assoc, bind_ok_eq, Outcome.bind_self]
    refine congrArg _ (funext fun tag => congrArg _ (funext fun v => ?_))
    rw [show Rt.fmtIntW 4 tag ++ Rt.fmtIntW 3 (Rt.len v) ++ v = pdsEntry tag v from rfl,
      show decide (Rt.len (st.2 ++ pdsEntry tag v) > (999 : Int)) = _ from len_gt _ 999, packStep, apply_ite Outcome.ok]
    simp only [decide_eq_true_eq, List.nil_append]

/-- C07 for the code as translated: with fuel `len + 1` the translated PDS walk does not run out of fuel on any text —
    the Python loop terminates (a negative length is refused, every step consumes at least seven characters) -/
theorem C07_source_pds_terminates (t : Text) : Src._pds_to_dict (t.length + 1) t ≠ .diverge := by
  intro h
  have := pds_to_dict_eq (t.length + 1) t
  rw [h] at this
  exact Props.C07.C07_pds_terminates Gen.intClasses t this.symm

/-- C07 for the code as translated: the same for the ICC TLV walk over bytes -/
theorem C07_source_icc_terminates (b : Bytes) (hb : ∀ x ∈ b, x < 256) : Src._icc_to_dict (b.length + 1) b ≠ .diverge := by
  intro h
  have := icc_to_dict_eq (b.length + 1) b hb
  rw [h] at this
  exact Props.C07.C07_icc_terminates b this.symm

/-- C12(a, b) for the code as translated: whenever the translated packer returns, the carriers it returns concatenate
    to the sub-elements in loop order and none holds more than 999 characters when no single sub-element does -/
theorem C12_source_pack (d : Rt.SDict Text) (outs : List Text) (h : Src._pds_to_de d = .ok outs) :
    ∃ es, Outcome.mapO (deEntry d) (deKeys d) = .ok es ∧ outs.flatten = es.flatten ∧
      ((∀ e ∈ es, e.length ≤ 999) → ∀ c ∈ outs, c.length ≤ 999) := by
  rw [pds_to_de_eq, Outcome.bind_eq_ok] at h
  obtain ⟨es, hm, h⟩ := h
  cases h
  exact ⟨es, hm, by rw [pdsPack_flatten]; rfl, pdsPack_le es [] (by simp)⟩

end Cardutil.SrcTie
