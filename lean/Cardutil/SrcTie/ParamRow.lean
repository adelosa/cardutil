import Cardutil.SrcTie.Param
import Cardutil.SrcTie.SDict
import Cardutil.Gen.Config
/-
  Source tie for the body of the `while True:` loop of `mciipm.IpmParamReader.__next__` (C18): what the reader does
  with one record the base reader delivered.  The translated body equals the model's `Param.rowOf`, and iterating it
  over the records equals the model's `Param.rowsOf`.
-/
namespace Cardutil.SrcTie

open Cardutil Cardutil.Py

/-! The reader's dictionary keys `'table_id'`, `'effective_timestamp'`, `'active_inactive_code'` and the layout's `'start'`,
`'end'`, in the code points the translator writes for a literal. -/

def kTableId : Text := [116, 97, 98, 108, 101, 95, 105, 100]
def kEffTs : Text := [101, 102, 102, 101, 99, 116, 105, 118, 101, 95, 116, 105, 109, 101, 115, 116, 97, 109, 112]
def kCode : Text := [97, 99, 116, 105, 118, 101, 95, 105, 110, 97, 99, 116, 105, 118, 101, 95, 99, 111, 100, 101]
def kStart : Text := [115, 116, 97, 114, 116]
def kEnd : Text := [101, 110, 100]

/-- the dictionary the reader returns for a model row: the three fixed entries, then the configured columns in layout order -/
def rowDict (fields : List Text) (r : Param.Row) : Rt.SDict Text :=
  [(kTableId, r.tableId), (kEffTs, r.effTs), (kCode, r.code)] ++ fields.zip r.cols

/-- a table layout as the configuration gives it (column name ↦ {start, end}) against the model's column list:
    same order, `start`/`end` present, and the positions are at or after the 8 characters a compressed row lacks -/
inductive Layout : Rt.SDict (Rt.SDict Int) → List (Nat × Nat) → Prop
  | nil : Layout [] []
  | cons {f d s e rest cols} : Rt.dictGet d kStart = .ok ((s : Nat) : Int) → Rt.dictGet d kEnd = .ok ((e : Nat) : Int) →
      8 ≤ s → s ≤ e → Layout rest cols → Layout ((f, d) :: rest) ((s, e) :: cols)

/-- the column reader over the layout's names is the model's slice decoder over its positions -/
theorem mapO_layout (c : Codec) (record : Bytes) (off : Nat) (g : Text → Outcome Text)
    {sfx : Rt.SDict (Rt.SDict Int)} {cols : List (Nat × Nat)} (hl : Layout sfx cols)
    (hg : ∀ f d s e, (f, d) ∈ sfx → Rt.dictGet d kStart = .ok ((s : Nat) : Int) → Rt.dictGet d kEnd = .ok ((e : Nat) : Int) →
      8 ≤ s → s ≤ e → g f = Param.decodeSlice c record (s - off) (e - off)) :
    Outcome.mapO g (Rt.dictKeys sfx) =
      Outcome.mapO (fun (se : Nat × Nat) => Param.decodeSlice c record (se.1 - off) (se.2 - off)) cols := by
  induction hl with
  | nil => rfl
  | @cons f d s e rest cols hs he h8 hse _ ih =>
    simp only [Rt.dictKeys, List.map_cons, Outcome.mapO, hg f d s e (by simp) hs he h8 hse]
    rw [← Rt.dictKeys, ih fun f' d' s' e' hm => hg f' d' s' e' (List.mem_cons_of_mem _ hm)]

/-- the column loop of the reader, for any column reader `g` that cuts the configured positions moved `off` to the
    left: the columns are appended in layout order, or the first undecodable column ends the call -/
theorem column_loop (c : Codec) (record : Bytes) (off : Nat) (g : Text → Outcome Text) :
    ∀ (sfx : Rt.SDict (Rt.SDict Int)) (cols : List (Nat × Nat)), Layout sfx cols →
    (∀ f d s e, (f, d) ∈ sfx → Rt.dictGet d kStart = .ok ((s : Nat) : Int) → Rt.dictGet d kEnd = .ok ((e : Nat) : Int) →
      8 ≤ s → s ≤ e → g f = Param.decodeSlice c record (s - off) (e - off)) →
    (sfx.map (·.1)).Nodup →
    ∀ (acc : Rt.SDict Text), (∀ f ∈ sfx.map (·.1), f ∉ acc.map (·.1)) →
    Rt.forO (fun (st : Rt.SDict Text) (field : Text) => Outcome.bind (g field) (fun t => .ok (Rt.dictSet st field t)))
        (Rt.dictKeys sfx) acc =
      (match Outcome.mapO (fun (se : Nat × Nat) => Param.decodeSlice c record (se.1 - off) (se.2 - off)) cols with
       | .ok vals => .ok (acc ++ (sfx.map (·.1)).zip vals)
       | _ => .escape .unicodeError) := by
  intro sfx cols hl hg hnd acc hacc
  rw [Rt.dictKeys, forO_dictSet_fresh g _ hnd acc hacc, ← Rt.dictKeys, mapO_layout c record off g hl hg]
  rcases Param.mapO_decode_cases c record off cols with ⟨vs, hvs⟩ | hvs <;> rw [hvs] <;> rfl

/-- what the reader returns for one record, in terms of the model's row: the row's dictionary, or None -/
def rowResult (fields : List Text) (x : Outcome (Option Param.Row)) : Outcome (Option (Rt.SDict Text)) :=
  x.bind (fun o => .ok (o.map (rowDict fields)))

/-- the names of a layout's columns do not collide with the three fixed entries of a row -/
def FreshColumns (layout : Rt.SDict (Rt.SDict Int)) : Prop :=
  (layout.map (·.1)).Nodup ∧ ∀ f ∈ layout.map (·.1), f ∉ [kTableId, kEffTs, kCode]

/-- as a chain of binds (`Param.rowOf_eq_bind`) the model's `rowOf` has the shape of the translated code -/
theorem next_row_eq (c : Codec) (index : Rt.SDict Text) (cfg : Rt.SDict (Rt.SDict (Rt.SDict Int))) (table : Text)
    (expanded : Bool) (layout : Rt.SDict (Rt.SDict Int)) (cols : List (Nat × Nat)) (record : Bytes)
    (hcfg : Rt.dictGet cfg table = .ok layout) (hl : Layout layout cols) (hfresh : FreshColumns layout) :
    Src.IpmParamReader_next_row expanded (decoderOfCodec c) index cfg table record =
      rowResult (layout.map (·.1)) (Param.rowOf c cols table expanded index record) := by
  have hcol f d (hm : (f, d) ∈ layout) s e (hs : Rt.dictGet d kStart = .ok ((s : Nat) : Int))
      (he : Rt.dictGet d kEnd = .ok ((e : Nat) : Int)) : HasColumn cfg table f s e :=
    ⟨layout, d, hcfg, dictGet_of_mem layout hfresh.1 f d hm, hs, he⟩
  rw [Param.rowOf_eq_bind]
  unfold Src.IpmParamReader_next_row rowResult
  -- in either row format both sides decode the key, the timestamp and the code in turn; left are the table test and,
  -- for a row of the table, the column loop (`column_loop`): all columns decode, or the first that does not ends both
  cases expanded <;> simp only [Bool.false_eq_true, ↓reduceIte] <;>
    simp (disch := decide) only [slice_py, Int.reduceToNat, decodeSlice_eq, Outcome.bind_assoc] <;>
    refine Outcome.bind_congr fun key hk => Outcome.bind_congr fun eff _ => Outcome.bind_congr fun code _ => ?_
  · -- compressed: the row's table is what the index holds for its sub-id
    rw [show Rt.dictGetOpt index key = Param.Index.lookup index key from rfl]
    by_cases ht : Param.Index.lookup index key = some table
    · simp only [ht, beq_iff_eq, if_true, hcfg, bind_ok_eq]
      rw [column_loop c record 8 _ layout cols hl (fun f d s e hm hs he h8 hse =>
        get_param_field_compressed c index cfg table record key table f s e (Param.decodeSlice_eq_ok.mp hk) ht
          (hcol f d hm s e hs he) h8 hse) hfresh.1 _ (by exact hfresh.2)]
      rcases Param.mapO_decode_cases c record 8 cols with ⟨vs, hvs⟩ | hvs <;> rw [hvs] <;> rfl
    · rw [if_neg (ht ∘ beq_iff_eq.mp)]
      cases hv : Param.Index.lookup index key with
      | none => rfl
      | some v => dsimp only; rw [if_neg (fun h => ht (hv.trans (congrArg some (beq_iff_eq.mp h))))]; rfl
  · -- expanded: the row carries its table id
    by_cases ht : key = table
    · subst ht
      simp only [beq_iff_eq, if_true, hcfg, bind_ok_eq]
      rw [column_loop c record 0 _ layout cols hl (fun f d s e hm hs he _ _ =>
        get_param_field_expanded c index cfg key record key f s e (Param.decodeSlice_eq_ok.mp hk) (hcol f d hm s e hs he))
        hfresh.1 _ (by exact hfresh.2)]
      rcases Param.mapO_decode_cases c record 0 cols with ⟨vs, hvs⟩ | hvs <;> rw [hvs] <;> rfl
    · rw [if_neg (ht ∘ beq_iff_eq.mp), if_neg (fun h => ht (Option.some.inj (beq_iff_eq.mp h)))]; rfl

theorem next_row_expanded (c : Codec) (index : Rt.SDict Text) (cfg : Rt.SDict (Rt.SDict (Rt.SDict Int))) (table : Text)
    (layout : Rt.SDict (Rt.SDict Int)) (cols : List (Nat × Nat)) (record : Bytes)
    (hcfg : Rt.dictGet cfg table = .ok layout) (hl : Layout layout cols) (hfresh : FreshColumns layout) :
    Src.IpmParamReader_next_row true (decoderOfCodec c) index cfg table record =
      rowResult (layout.map (·.1)) (Param.rowOf c cols table true index record) :=
  next_row_eq c index cfg table true layout cols record hcfg hl hfresh

theorem next_row_compressed (c : Codec) (index : Rt.SDict Text) (cfg : Rt.SDict (Rt.SDict (Rt.SDict Int))) (table : Text)
    (layout : Rt.SDict (Rt.SDict Int)) (cols : List (Nat × Nat)) (record : Bytes)
    (hcfg : Rt.dictGet cfg table = .ok layout) (hl : Layout layout cols) (hfresh : FreshColumns layout) :
    Src.IpmParamReader_next_row false (decoderOfCodec c) index cfg table record =
      rowResult (layout.map (·.1)) (Param.rowOf c cols table false index record) :=
  next_row_eq c index cfg table false layout cols record hcfg hl hfresh

/-- iterating the reader: the rows returned, and how the iteration ended (`last` = how the base reader ended) -/
def srcParamRows (expanded : Bool) (dec : Bytes → Outcome Text) (index : Rt.SDict Text)
    (cfg : Rt.SDict (Rt.SDict (Rt.SDict Int))) (table : Text) (last : Param.PEnd) :
    List Bytes → List (Rt.SDict Text) × Param.PEnd
  | [] => ([], last)
  | r :: rs =>
    match Src.IpmParamReader_next_row expanded dec index cfg table r with
    | .ok x =>
      let rest := srcParamRows expanded dec index cfg table last rs
      (match x with | some row => row :: rest.1 | none => rest.1, rest.2)
    | .dataError => ([], .dataError)
    | .escape k => ([], .escape k)
    -- unreachable (the method has no `while`); `Param.PEnd` has no such end, and `Param.rowsOf` answers alike
    | .diverge => ([], .escape .other)

/-- C18 for the reader's row loop as translated: over any records, the rows returned are the dictionaries of exactly the
    rows the model returns, and the iteration ends the same way -/
theorem C18_source_rows (c : Codec) (index : Rt.SDict Text) (cfg : Rt.SDict (Rt.SDict (Rt.SDict Int))) (table : Text)
    (expanded : Bool) (layout : Rt.SDict (Rt.SDict Int)) (cols : List (Nat × Nat)) (last : Param.PEnd)
    (hcfg : Rt.dictGet cfg table = .ok layout) (hl : Layout layout cols) (hfresh : FreshColumns layout)
    (recs : List Bytes) :
    srcParamRows expanded (decoderOfCodec c) index cfg table last recs =
      ((Param.rowsOf c cols table expanded index last recs).1.map (rowDict (layout.map (·.1))),
       (Param.rowsOf c cols table expanded index last recs).2) := by
  induction recs with
  | nil => rfl
  | cons r rs ih =>
    rw [srcParamRows, Param.rowsOf, next_row_eq c index cfg table expanded layout cols r hcfg hl hfresh, ih]
    unfold rowResult
    cases Param.rowOf c cols table expanded index r with
    | ok x => cases x <;> rfl
    | dataError => rfl
    | escape k => rfl
    | diverge => rfl

/-- a row of another table is never returned, whatever the file contains: every returned dictionary carries the requested id -/
theorem C18_source_only_requested_table (c : Codec) (index : Rt.SDict Text) (cfg : Rt.SDict (Rt.SDict (Rt.SDict Int)))
    (table : Text) (expanded : Bool) (layout : Rt.SDict (Rt.SDict Int)) (cols : List (Nat × Nat)) (last : Param.PEnd)
    (hcfg : Rt.dictGet cfg table = .ok layout) (hl : Layout layout cols) (hfresh : FreshColumns layout)
    (recs : List Bytes) :
    ∀ d ∈ (srcParamRows expanded (decoderOfCodec c) index cfg table last recs).1, Rt.dictGet d kTableId = .ok table := by
  rw [C18_source_rows c index cfg table expanded layout cols last hcfg hl hfresh recs]
  intro d hd
  obtain ⟨row, hrow, rfl⟩ := List.mem_map.mp hd
  obtain ⟨r, _, hr⟩ := Param.rowsOf_mem hrow
  obtain ⟨_, _, _, ht, _⟩ := Param.rowOf_eq_some hr
  rw [rowDict, ht]
  exact dictGet_first _ _ _

/-- the layout hypotheses are satisfiable: one column at 19..22 -/
example : Layout [([67], [(kStart, (19 : Int)), (kEnd, (22 : Int))])] [(19, 22)] ∧
    FreshColumns [([67], [(kStart, (19 : Int)), (kEnd, (22 : Int))])] := by
  refine ⟨.cons (by decide) (by decide) (by decide) (by decide) .nil, by decide, by decide⟩

/-- a table of the generated configuration (re-translated from /repo on every run) as the dictionary the reader is given -/
def layoutOf (t : List (String × Nat × Nat)) : Rt.SDict (Rt.SDict Int) :=
  t.map (fun x => (Rt.lit x.1, [(kStart, ((x.2.1 : Nat) : Int)), (kEnd, ((x.2.2 : Nat) : Int))]))

theorem layout_layoutOf (t : List (String × Nat × Nat)) (h : ∀ x ∈ t, 8 ≤ x.2.1 ∧ x.2.1 ≤ x.2.2) :
    Layout (layoutOf t) (t.map (fun x => (x.2.1, x.2.2))) := by
  induction t with
  | nil => exact .nil
  | cons x t ih =>
    have hx := h x (by simp)
    exact .cons (dictGet_first _ _ _) (by rw [dictGet_cons, if_neg (by decide)]; exact dictGet_first _ _ _)
      hx.1 hx.2 (ih (fun y hy => h y (by simp [hy])))

/-- the three fixed keys of a row as the source spells them -/
def fixedKeys : List String := ["table_id", "effective_timestamp", "active_inactive_code"]

theorem fixedKeys_lit : fixedKeys.map Rt.lit = [kTableId, kEffTs, kCode] := by
  simp only [fixedKeys, List.map_cons, List.map_nil]
  repeat rw [lit_ofList]
  rfl

/-- the names are compared as strings (`Rt.lit` is injective): spelling one out, `String.toList` on a literal, runs the
    UTF-8 decoder in the kernel, which is much slower to check -/
theorem freshColumns_layoutOf (t : List (String × Nat × Nat)) (hnd : (t.map (·.1)).Nodup)
    (hk : ∀ x ∈ t, x.1 ∉ fixedKeys) : FreshColumns (layoutOf t) := by
  have hn : (layoutOf t).map (·.1) = (t.map (·.1)).map Rt.lit := by simp [layoutOf]
  rw [FreshColumns, hn, ← fixedKeys_lit]
  refine ⟨hnd.map _ fun _ _ hne e => hne (lit_injective e), ?_⟩
  intro f hf hm
  obtain ⟨s, hs, rfl⟩ := List.mem_map.mp hf
  obtain ⟨x, hx, rfl⟩ := List.mem_map.mp hs
  obtain ⟨k, hk', e⟩ := List.mem_map.mp hm
  exact hk x hx (lit_injective e ▸ hk')

/-- every packaged parameter table: positions at or after 8 (in fact 19), start ≤ end, column names distinct and
    different from the three fixed entries — so `C18_source_rows` applies to each of them -/
theorem packaged_layouts_ok : ∀ t ∈ Gen.paramTables,
    Layout (layoutOf t.2) (t.2.map (fun x => (x.2.1, x.2.2))) ∧ FreshColumns (layoutOf t.2) := by
  have h : ∀ t ∈ Gen.paramTables, (∀ x ∈ t.2, 8 ≤ x.2.1 ∧ x.2.1 ≤ x.2.2) ∧ (t.2.map (·.1)).Nodup ∧
      ∀ x ∈ t.2, x.1 ∉ fixedKeys := by decide +kernel
  intro t ht
  exact ⟨layout_layoutOf t.2 (h t ht).1, freshColumns_layoutOf t.2 (h t ht).2.1 (h t ht).2.2⟩

end Cardutil.SrcTie
