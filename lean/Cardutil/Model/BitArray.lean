import Cardutil.Basic
/-
  Model of `cardutil.BitArray` as the bitmap code uses it (big-endian, the class default): the flags of a byte string
  and the bytes of a list of flags.  In a file of its own because the lemmas about these two conversions
  (Lemmas/BitArray.lean) also serve DES, whose model has its own copies of them (`Des.bytesOfBits_eq_iso`), and DES
  should not depend on the ISO 8583 model.
-/
namespace Cardutil.Iso

/-- `BitArray.tolist()` of 16 bytes: 128 booleans, bit 1 = most significant bit of byte 0 -/
def bitsOfBytes (b : Bytes) : List Bool :=
  b.flatMap (fun x => (List.range 8).map (fun i => (x / 2 ^ (7 - i)) % 2 == 1))

/-- `BitArray.fromlist(...).tobytes()` -/
def bytesOfBits : List Bool → Bytes
  | b0 :: b1 :: b2 :: b3 :: b4 :: b5 :: b6 :: b7 :: rest =>
    ((((((((if b0 then 1 else 0) * 2 + (if b1 then 1 else 0)) * 2 + (if b2 then 1 else 0)) * 2 +
      (if b3 then 1 else 0)) * 2 + (if b4 then 1 else 0)) * 2 + (if b5 then 1 else 0)) * 2 +
      (if b6 then 1 else 0)) * 2 + (if b7 then 1 else 0)) :: bytesOfBits rest
  | _ => []

end Cardutil.Iso
