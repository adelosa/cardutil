import Cardutil.Py.Int
import Cardutil.Py.Decimal
import Cardutil.Py.Codec
import Cardutil.Py.Time
import Cardutil.Model.Card
import Cardutil.Model.BitArray
/-
  Model of `cardutil.iso8583` (dumps / loads and their helpers); `cardutil.BitArray` is in Model/BitArray.lean.

  Exceptions are values (`Outcome`): `dataError` = Iso8583DataError, `escape k` = any other Python
  exception.  Loops whose progress depends on parsed data (PDS walk, ICC walk) take explicit fuel;
  running out of fuel is `diverge`.
-/
namespace Cardutil.Iso

open Cardutil Cardutil.Py

/-! ## configuration -/

inductive FType | fixed | llvar | lllvar
  deriving Repr, DecidableEq, Inhabited

inductive Proc | none | pds | icc | de43 | pan | panPrefix
  deriving Repr, DecidableEq, Inhabited

inductive PyType | str | int | decimal | datetime
  deriving Repr, DecidableEq, Inhabited

structure FieldCfg where
  ftype : FType
  length : Nat
  proc : Proc
  pytype : PyType
  dateFmt : List Directive
  deriving Repr, DecidableEq, Inhabited

/-- bit number → field configuration (`bit_config`; keys are the decimal strings of the bits) -/
abbrev Config := List (Nat × FieldCfg)

def Config.get (cfg : Config) (bit : Nat) : Option FieldCfg := (cfg.find? (·.1 == bit)).map (·.2)

/-- `_get_field_length`: size of the length prefix -/
def FieldCfg.prefixLen (f : FieldCfg) : Nat :=
  match f.ftype with
  | .llvar => 2
  | .lllvar => 3
  | .fixed => 0

/-! ## values and dictionaries -/

inductive Val
  | str (t : Text)
  | int (i : Int)
  | bytes (b : Bytes)
  | dt (d : DateTime)
  | dec (d : Py.Dec)
  deriving Repr, DecidableEq

inductive Key
  | mti
  | de (n : Nat)
  | pds (tag : Text)       -- "PDS" ++ tag
  | tag (t : Text)         -- "TAG" ++ t
  | iccData
  | de43 (name : Text)     -- a named group of the DE43 pattern
  | raw (t : Text)         -- any other key (ignored by the encoder)
  deriving Repr, DecidableEq

/-- Python dict: insertion-ordered association list, `d[k] = v` replaces in place or appends -/
abbrev Dict := List (Key × Val)

def Dict.get (d : Dict) (k : Key) : Option Val := (d.find? (·.1 == k)).map (·.2)

def Dict.set : Dict → Key → Val → Dict
  | [], k, v => [(k, v)]
  | (k', v') :: rest, k, v => if k' == k then (k, v) :: rest else (k', v') :: Dict.set rest k v

def Dict.update (d : Dict) (e : Dict) : Dict := e.foldl (fun acc kv => Dict.set acc kv.1 kv.2) d

/-- everything outside cardutil that the codec calls, passed as parameters -/
structure Env where
  classes : IntClasses
  codec : Codec
  /-- `re.match(pattern, text).groupdict()` with the POSTCODE rstrip, for the element's pattern -/
  de43 : Nat → Text → Dict
  /-- `_get_date_from_string` (dateutil / fromisoformat); `none` = ValueError -/
  parseDate : Text → Option DateTime

def hexDigitLower (n : Nat) : Nat := if n < 10 then 48 + n else 87 + n

/-- `binascii.hexlify` -/
def hexlify (b : Bytes) : Bytes := b.flatMap (fun x => [hexDigitLower (x / 16 % 16), hexDigitLower (x % 16)])

def hexVal? (c : Nat) : Option Nat :=
  if 48 ≤ c ∧ c ≤ 57 then some (c - 48)
  else if 97 ≤ c ∧ c ≤ 102 then some (c - 87)
  else if 65 ≤ c ∧ c ≤ 70 then some (c - 55)
  else none

/-- `binascii.unhexlify`; `none` = binascii.Error -/
def unhexlify? : Bytes → Option Bytes
  | [] => some []
  | [_] => none
  | a :: b :: rest =>
    match hexVal? a, hexVal? b, unhexlify? rest with
    | some x, some y, some r => some ((16 * x + y) :: r)
    | _, _, _ => none

/-! ## PDS (private data sub-elements) -/

/-- `f'{tag:04}{length:03}{value}'` -/
def pdsEntry (tag : Int) (v : Text) : Text := fmtInt 4 tag ++ fmtInt 3 (Int.ofNat v.length) ++ v

/-- the greedy packing loop of `_pds_to_de` over the (already sorted) entries -/
def pdsPack : List Text → Text → List Text
  | [], cur => if cur.isEmpty then [] else [cur]
  | e :: es, cur =>
    if 999 < (cur ++ e).length then cur :: pdsPack es e
    else pdsPack es (cur ++ e)

/-- insertion sort of PDS keys by their rendered text (Python `sorted` on 'PDSxxxx' strings) -/
def textLt : Text → Text → Bool
  | [], [] => false
  | [], _ :: _ => true
  | _ :: _, [] => false
  | a :: as, b :: bs => if a < b then true else if b < a then false else textLt as bs

def insertSorted (x : Text × Val) : List (Text × Val) → List (Text × Val)
  | [] => [x]
  | y :: ys => if textLt y.1 x.1 then y :: insertSorted x ys else x :: y :: ys

def sortPds (l : List (Text × Val)) : List (Text × Val) := l.foldr insertSorted []

/-- the `PDSxxxx` entries of a message in dict order -/
def pdsEntriesOf (m : Dict) : List (Text × Val) :=
  m.filterMap (fun kv => match kv.1 with | .pds t => some (t, kv.2) | _ => none)

/-- `_pds_to_de`: sorted keys, `int(key[3:])`, `len(value)`, greedy packing -/
def pdsEntryFor (k : IntClasses) (kv : Text × Val) : Outcome Text :=
  match pyInt k kv.1, kv.2 with
  | some tag, .str v => .ok (pdsEntry tag v)
  | none, _ => .escape .valueError          -- int(key[3:])
  | some _, _ => .escape .typeError         -- len() of a non-string value

def pdsToDe (k : IntClasses) (m : Dict) : Outcome (List Text) :=
  (Outcome.mapO (pdsEntryFor k) (sortPds (pdsEntriesOf m))).bind (fun es => .ok (pdsPack es []))

/-- `_pds_to_dict`: tag(4) length(3) value walk.  A malformed length is a ValueError, which the
    caller turns into the library error; a negative length is rejected the same way. -/
def pdsWalk (k : IntClasses) : Nat → Text → Dict → Outcome Dict
  | 0, _, _ => .diverge
  | fuel + 1, t, acc =>
    if t.isEmpty then .ok acc
    else
      match pyInt k ((t.drop 4).take 3) with
      | none => .escape .valueError
      | some (.negSucc _) => .escape .valueError
      | some (.ofNat n) =>
        pdsWalk k fuel (t.drop (7 + n)) (Dict.set acc (.pds (t.take 4)) (.str ((t.drop 7).take n)))

def pdsToDict (k : IntClasses) (t : Text) : Outcome Dict := pdsWalk k (t.length + 1) t []

/-! ## ICC (DE55 TLV data) -/

def hexUpperDigit (n : Nat) : Nat := if n < 10 then 48 + n else 55 + n

def hexTextLower (b : Bytes) : Text := hexlify b
def hexTextUpper (b : Bytes) : Text := b.flatMap (fun x => [hexUpperDigit (x / 16 % 16), hexUpperDigit (x % 16)])

def isTwoByteTag (t : Nat) : Bool := t == 0x9f || t == 0x5f

/-- the tag at the head of the remaining ICC data: one byte, or two when it starts with 9f / 5f -/
def iccTag : Bytes → Bytes
  | [] => []
  | t0 :: rest => if isTwoByteTag t0 then (t0 :: rest).take 2 else [t0]

/-- what follows the tag -/
def iccAfter : Bytes → Bytes
  | [] => []
  | t0 :: rest => if isTwoByteTag t0 then (t0 :: rest).drop 2 else rest

/-- `_icc_to_dict` tag walk.  `struct.unpack(">B", b'')` at the end of the field is a struct.error,
    which the caller turns into the library error. -/
def iccWalk : Nat → Bytes → Dict → Outcome Dict
  | 0, _, _ => .diverge
  | fuel + 1, b, acc =>
    if b.isEmpty then .ok acc
    else if iccTag b == [0] then .ok acc
    else
      match iccAfter b with
      | [] => .escape .structError
      | len :: body =>
        iccWalk fuel (body.drop len)
          (Dict.set acc (.tag (hexTextUpper (iccTag b))) (.str (hexTextLower (body.take len))))

def iccToDict (b : Bytes) : Outcome Dict :=
  iccWalk (b.length + 1) b [(.iccData, .str (hexTextLower b))]

/-! ## decode -/

/-- `_string_to_pytype`; a ValueError is turned into the library error by the caller -/
def stringToPyType (env : Env) (f : FieldCfg) (t : Text) : Outcome Val :=
  match f.pytype with
  | .str => .ok (.str t)
  | .int => match pyInt env.classes t with
    | some i => .ok (.int i)
    | none => .escape .valueError
  | .decimal => match pyDecimal env.classes t with
    | some d => .ok (.dec d)
    | none => .escape .decimalError      -- decimal.InvalidOperation (an ArithmeticError, not a ValueError)
  | .datetime => match strptime env.classes f.dateFmt t with
    | some d => .ok (.dt d)
    | none => .escape .valueError

def isValueError : ExcKind → Bool
  | .valueError => true
  | _ => false

/-- what the typed conversion's handler catches: `except (ValueError, decimal.InvalidOperation)` -/
def isConvError : ExcKind → Bool
  | .valueError => true
  | .decimalError => true
  | _ => false

def isValueOrStructError : ExcKind → Bool
  | .valueError => true
  | .structError => true
  | _ => false

/-- the declared length of an element: the configured width, or the parsed length prefix
    (undecodable / non-numeric / negative prefix → library error) -/
def fieldLength (env : Env) (f : FieldCfg) (data : Bytes) : Outcome Nat :=
  if f.prefixLen = 0 then .ok f.length
  else
    match env.codec.decode (data.take f.prefixLen) with
    | none => .dataError
    | some s =>
      match pyInt env.classes s with
      | none => .dataError
      | some (.negSucc _) => .dataError
      | some (.ofNat n) => .ok n

/-- ICC element: bytes kept as they are, TLV walk for the derived entries -/
def decodeIcc (bit : Nat) (f : FieldCfg) (raw : Bytes) : Outcome Dict :=
  match f.pytype with
  | .str =>
    ((iccToDict raw).catchAs isValueOrStructError).bind (fun sub =>
      .ok (Dict.update [(Key.de bit, Val.bytes raw)] sub))
  | _ => .escape .typeError

/-- the processor-specific derived entries for a decoded (typed) value -/
def derived (env : Env) (bit : Nat) (f : FieldCfg) (v : Val) : Outcome Dict :=
  match f.proc with
  | .pds =>
    match v with
    | .str t => (pdsToDict env.classes t).catchAs isValueOrStructError
    | _ => .escape .typeError
  | .de43 =>
    match v with
    | .str t => .ok (env.de43 bit t)
    | _ => .escape .typeError
  | _ => .ok []

/-- the processor-specific transformation of a decoded text: PAN masking (first six, last four),
    PAN prefix (first nine), otherwise unchanged -/
def transform (f : FieldCfg) (t : Text) : Text :=
  match f.proc with
  | .pan => Card.mask t 42
  | .panPrefix => Card.panPrefix t
  | _ => t

/-- text element: decode, mask / prefix, typed conversion, derived entries -/
def decodeTextField (env : Env) (bit : Nat) (f : FieldCfg) (raw : Bytes) : Outcome Dict :=
  match env.codec.decode raw with
  | none => .dataError
  | some text =>
    ((stringToPyType env f (transform f text)).catchAs isConvError).bind (fun v =>
      (derived env bit f v).bind (fun sub => .ok (Dict.update [(Key.de bit, v)] sub)))

/-- `_iso8583_to_field`: returns the entries for this element and the message increment -/
def decodeField (env : Env) (bit : Nat) (f : FieldCfg) (data : Bytes) : Outcome (Dict × Nat) :=
  (fieldLength env f data).bind (fun flen =>
    let raw := (data.drop f.prefixLen).take flen
    (if f.proc == .icc then decodeIcc bit f raw else decodeTextField env bit f raw).bind (fun d =>
      .ok (d, flen + f.prefixLen)))

/-- the bit loop of `_iso8583_to_dict` over the present bits in ascending order -/
def decodeBits (env : Env) (cfg : Config) : List Nat → Bytes → Dict → Nat → Outcome (Dict × Nat)
  | [], _, acc, ptr => .ok (acc, ptr)
  | bit :: bits, data, acc, ptr =>
    match cfg.get bit with
    | none => .dataError
    | some f =>
      (decodeField env bit f (data.drop ptr)).bind (fun r =>
        decodeBits env cfg bits data (Dict.update acc r.1) (ptr + r.2))

/-- bits 2..128 flagged in a 16-byte bitmap -/
def presentBits (bitmap : Bytes) : List Nat :=
  let bits := bitsOfBytes bitmap
  (List.range 127).filterMap (fun i => if bits.getD (i + 1) false then some (i + 2) else none)

/-- header of a message: MTI text, 16-byte binary bitmap, message data.
    Short input (struct.error), non-hex hex-bitmap (binascii.Error), undecodable or non-numeric MTI
    are all the library error. -/
def decodeHeader (env : Env) (hexBitmap : Bool) (msg : Bytes) : Outcome (Text × Bytes × Bytes) :=
  let hdr := if hexBitmap then 36 else 20
  if msg.length < hdr then .dataError
  else
    match (if hexBitmap then unhexlify? ((msg.drop 4).take 32) else some ((msg.drop 4).take 16)) with
    | none => .dataError
    | some bitmap =>
      match env.codec.decode (msg.take 4) with
      | none => .dataError
      | some mti =>
        match pyInt env.classes mti with
        | none => .dataError
        | some _ => .ok (mti, bitmap, msg.drop hdr)

/-- the element loop and the final "whole message consumed" check -/
def decodeBody (env : Env) (cfg : Config) (mti : Text) (bitmap data : Bytes) : Outcome Dict :=
  (decodeBits env cfg (presentBits bitmap) data [(.mti, .str mti)] 0).bind (fun r =>
    if r.2 = data.length then .ok r.1 else .dataError)

/-- `loads` / `_iso8583_to_dict` -/
def decode (env : Env) (cfg : Config) (hexBitmap : Bool) (msg : Bytes) : Outcome Dict :=
  (decodeHeader env hexBitmap msg).bind (fun h => decodeBody env cfg h.1 h.2.1 h.2.2)

/-! ## encode -/

/-- truthiness test `v or v == 0` of `_dict_to_iso8583` -/
def present : Val → Bool
  | .str t => !t.isEmpty
  | .int _ => true
  | .bytes b => !b.isEmpty
  | .dt _ => true
  | .dec _ => true

/-- `_pytype_to_string`: the value as text (or bytes, passed through) -/
def pyTypeToString (env : Env) (f : FieldCfg) (v : Val) : Outcome Val :=
  match f.pytype with
  | .str => .ok v
  | .int =>
    match v with
    | .int i => .ok (.str (fmtInt f.length i))
    | .str t => match pyInt env.classes t with
      | some i => .ok (.str (fmtInt f.length i))
      | none => .escape .valueError
    | _ => .escape .typeError
  | .decimal =>
    -- `format(decimal.Decimal(field_data), '0' + str(field_length or '') + 'f')` (a width of 0 is left out)
    let d? : Outcome Py.Dec :=
      match v with
      | .dec d => .ok d
      | .int i => .ok (decOfInt i)
      | .str t => match pyDecimal env.classes t with
        | some d => .ok d
        | none => .escape .decimalError
      | _ => .escape .typeError
    d?.bind (fun d => match fmtDecF f.length d with
      | some t => .ok (.str t)
      | none => .escape .valueError)
  | .datetime =>
    match v with
    | .dt d => .ok (.str (strftime f.dateFmt d))
    | .str t => match env.parseDate t with
      | some d => .ok (.str (strftime f.dateFmt d))
      | none => .escape .valueError
    | _ => .escape .typeError

def encodeText (env : Env) (t : Text) : Outcome Bytes :=
  match env.codec.encode t with
  | some b => .ok b
  | none => .escape .unicodeError

/-- `_field_to_iso8583` -/
def encodeField (env : Env) (f : FieldCfg) (v : Val) : Outcome Bytes :=
  (pyTypeToString env f v).bind (fun s =>
    match s with
    | .str t =>
      if f.prefixLen = 0 then encodeText env (fitLeft f.length t)
      else if 10 ^ f.prefixLen ≤ t.length then .dataError     -- longer than the prefix can count: refused
      else
        (encodeText env (fmtInt f.prefixLen (Int.ofNat t.length))).bind (fun p =>
          (encodeText env t).bind (fun body => .ok (p ++ body)))
    | .bytes b =>
      if f.prefixLen = 0 then .ok (b.take f.length)
      else if 10 ^ f.prefixLen ≤ b.length then .dataError
      else (encodeText env (fmtInt f.prefixLen (Int.ofNat b.length))).bind (fun p => .ok (p ++ b))
    | _ => .escape .typeError)

def insertNat (x : Nat) : List Nat → List Nat
  | [] => [x]
  | y :: ys => if y ≤ x then y :: insertNat x ys else x :: y :: ys

/-- `sorted(...)` of a list of numbers (insertion sort: structural, so the kernel can evaluate it) -/
def sortNat (l : List Nat) : List Nat := l.foldr insertNat []

/-- PDS carrier elements in ascending order -/
def pdsCarriers (cfg : Config) : List Nat :=
  sortNat ((cfg.filter (fun e => e.2.proc == .pds)).map (·.1))

/-- assign the packed PDS strings to the carriers in ascending order (`pop()` from the reversed
    list); more strings than carriers is an IndexError -/
def assignCarriers : List Nat → List Text → Dict → Outcome Dict
  | _, [], m => .ok m
  | [], _ :: _, _ => .escape .indexError
  | c :: cs, t :: ts, m => assignCarriers cs ts (Dict.set m (.de c) (.str t))

/-- the field loop of `_dict_to_iso8583` over the given bits (2..128): the bits actually emitted
    and the concatenated element data -/
def encodeBits (env : Env) (cfg : Config) (m : Dict) : List Nat → Outcome (List Nat × Bytes)
  | [] => .ok ([], [])
  | bit :: bits =>
    match Dict.get m (.de bit) with
    | some v =>
      if present v then
        match cfg.get bit with
        | none => .escape .keyError
        | some f =>
          (encodeField env f v).bind (fun b =>
            (encodeBits env cfg m bits).bind (fun r => .ok (bit :: r.1, b ++ r.2)))
      else encodeBits env cfg m bits
    | none => encodeBits env cfg m bits

/-- bitmap of the present bits: bit 1 always on -/
def bitmapOf (presentBits : List Nat) : Bytes :=
  bytesOfBits ((List.range 128).map (fun i => i == 0 || presentBits.contains (i + 1)))

/-- the MTI bytes: `message['MTI'].encode(encoding) if message.get('MTI') else b''` -/
def encodeMti (env : Env) (m : Dict) : Outcome Bytes :=
  match Dict.get m .mti with
  | some (.str t) => if t.isEmpty then .ok [] else encodeText env t
  | some _ => .escape .typeError        -- `.encode` on a non-string MTI
  | none => .ok []

/-- everything after the PDS carriers have been assigned: element loop, bitmap, MTI -/
def encodeCore (env : Env) (cfg : Config) (hexBitmap : Bool) (m : Dict) : Outcome Bytes :=
  (encodeBits env cfg m ((List.range 127).map (· + 2))).bind (fun r =>
    (encodeMti env m).bind (fun mti =>
      .ok (mti ++ (if hexBitmap then hexlify (bitmapOf r.1) else bitmapOf r.1) ++ r.2)))

/-- `dumps` / `_dict_to_iso8583` -/
def encode (env : Env) (cfg : Config) (hexBitmap : Bool) (m : Dict) : Outcome Bytes :=
  (pdsToDe env.classes m).bind (fun chunks =>
    (assignCarriers (pdsCarriers cfg) chunks m).bind (fun m' =>
      encodeCore env cfg hexBitmap m'))

end Cardutil.Iso
