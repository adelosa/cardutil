import Cardutil.Model.Vbs
import Cardutil.Model.Iso8583
import Cardutil.Model.PinBlock
import Cardutil.Model.Card
/-
  Pre-fix definitions (the code as it was at the pinned commit) with kernel-checked
  counter-witnesses: documentation of the defects that the checks found and that the `fix:` commits
  in /repo repaired (DESIGN.md §13.3).  Nothing in `Props/` depends on this file.
-/
namespace Cardutil.Legacy

open Cardutil Cardutil.Py

/-! ### C11: `VbsWriter.close` without the finalised flag -/

def close (s : Writer.St) : Writer.St :=
  let s1 := Writer.rawWrite 1012 s (be32 0)
  { s1 with file := s1.file.seek0 }

/-- close twice on an unblocked writer: the second terminator overwrites the first length prefix -/
theorem close_twice_overwrites :
    (close (close (Writer.write 1012 (Writer.init 1012 false) [7, 7]))).file.data = [0, 0, 0, 0, 7, 7, 0, 0, 0, 0] := by
  decide

/-- … and the file then reads back as no records at all -/
theorem close_twice_reads_empty :
    Vbs.readAll plainSrc 6000 11 (Vbs.init [0, 0, 0, 0, 7, 7, 0, 0, 0, 0]) = ([], .eof) := by decide

/-! ### C05: `Unblock1014.read()` with no size -/

/-- the pre-fix read: `output = buffer[:0]; buffer = buffer[0:]` when no size is given -/
def readNoSize (buf : Bytes) : Bytes × Bytes := (buf.take 0, buf.drop 0)

theorem read_no_size_returns_nothing (buf : Bytes) : (readNoSize buf).1 = [] ∧ (readNoSize buf).2 = buf := by
  simp [readNoSize]

/-! ### C07: the PDS walker without the negative-length test -/

def pdsWalk (k : IntClasses) : Nat → Text → Iso.Dict → Outcome Iso.Dict
  | 0, _, _ => .diverge
  | fuel + 1, t, acc =>
    if t.isEmpty then .ok acc
    else
      match pyInt k ((t.drop 4).take 3) with
      | none => .escape .valueError
      | some (.ofNat n) => pdsWalk k fuel (t.drop (7 + n)) (Iso.Dict.set acc (.pds (t.take 4)) (.str ((t.drop 7).take n)))
      | some (.negSucc n) =>
        -- `field_pointer += 7 + length` with length = -(n+1): for -7 the pointer does not move
        if n + 1 = 7 then pdsWalk k fuel t acc else pdsWalk k fuel (t.drop (7 - (n + 1))) acc

/-- "0001-07": the pointer stands still; every amount of fuel is exhausted (the Python loop hangs) -/
theorem pds_negative_length_diverges (fuel : Nat) :
    pdsWalk asciiClasses fuel [48, 48, 48, 49, 45, 48, 55] [] = .diverge := by
  induction fuel with
  | zero => rfl
  | succ f ih =>
    -- one step computes: the length field "-07" is `Int.negSucc 6`, `6 + 1 = 7`, and the walk calls itself on the same text
    exact ih

/-! ### C13: PIN length written in decimal -/

/-- the pre-fix length field: `str(len(pin))` -/
def lenFieldDecimal (pin : Text) : Text := natDigits pin.length

/-- a 10-digit PIN: two characters "10" where the single hex digit "a" belongs -/
theorem pin_length_decimal_is_wrong :
    lenFieldDecimal [49, 50, 51, 52, 53, 54, 55, 56, 57, 48] = [49, 48] ∧
    Pin.lenField [49, 50, 51, 52, 53, 54, 55, 56, 57, 48] = [97] := by
  decide +kernel

/-! ### C15: validation as an `assert` under `python -O` -/

/-- with assert statements removed the function body is empty: everything validates -/
def validateOptimised (_ : Text) : Outcome Unit := .ok ()

theorem optimised_mode_accepts_invalid :
    validateOptimised [49, 49, 49] = .ok () ∧ Card.validateText [49, 49, 49] = .escape .assertionError := by
  constructor
  · rfl
  · decide

/-! ### C10: record number taken after the read -/

/-- the pre-fix wrapper reported `record_number` after `VbsReader.__next__` had advanced it -/
def reportedBefore (recnoBeforeRead : Nat) : Nat := recnoBeforeRead + 1

theorem bad_second_record_reported_as_third : reportedBefore 2 = 3 := rfl

/-! ### C07: a `decimal` typed element under `except ValueError` only -/

/-- the pre-fix handler of the typed conversion caught ValueError only -/
def convertBefore (env : Iso.Env) (f : Iso.FieldCfg) (t : Text) : Outcome Iso.Val :=
  (Iso.stringToPyType env f t).catchAs Iso.isValueError

/-- "12ab.5" in a decimal field: `decimal.InvalidOperation` (an ArithmeticError) escaped `loads` -/
theorem decimal_field_escaped (env : Iso.Env) (f : Iso.FieldCfg) (h : f.pytype = .decimal)
    (hk : env.classes = asciiClasses) :
    convertBefore env f [49, 50, 97, 98, 46, 53] = .escape .decimalError ∧
    (Iso.stringToPyType env f [49, 50, 97, 98, 46, 53]).catchAs Iso.isConvError = .dataError := by
  have hd : pyDecimal asciiClasses [49, 50, 97, 98, 46, 53] = none := by decide
  simp [convertBefore, Iso.stringToPyType, h, hk, hd, Outcome.catchAs, Iso.isValueError, Iso.isConvError]

/-! ### C14: key components combined with a fixed width of 32 hex digits -/

/-- a 24-byte component starting with a zero nibble: the pre-fix `:032x` rendering has 47 hex
    digits (odd: `unhexlify` raised), the fixed rendering keeps the component's 48 -/
theorem triple_length_component_lost_a_digit :
    (Pin.fmtHexW 32 (16 ^ 46)).length = 47 ∧ (Pin.fmtHexW 48 (16 ^ 46)).length = 48 := by
  decide +kernel

/-! ### C01/C02: a `decimal` typed variable-length element (configured length 0) could not be encoded -/

/-- the pre-fix format specification `'0' + str(field_length) + 'f'` is '00f' for a configured length of 0, which
    `format` refuses with ValueError -/
def fmtDecFBefore (w : Nat) (d : Dec) : Option Text := if w = 0 then none else fmtDecF w d

/-- Decimal('12.5') in an LLVAR element with field_length 0: ValueError before, "12.5" after fix 43f0702 -/
theorem decimal_in_variable_element_refused :
    fmtDecFBefore 0 ⟨false, [1, 2, 5], .fin (-1)⟩ = none ∧
    fmtDecF 0 ⟨false, [1, 2, 5], .fin (-1)⟩ = some [49, 50, 46, 53] := by
  decide

end Cardutil.Legacy
